import Model.InquiryEq
import Proofs.Serialize
import Props.C13
/-!
# C13 (continued) — an inquiry survives a JSON round trip

`Inquiry.to_json()` writes the attribute dictionary through the value codec of the JSON text (tuples are tagged,
`Serialize.encVal`); `Inquiry.from_json` decodes it and calls the constructor, which normalises falsy fields.
Domain (`noTags`): values that do not use jsonpickle's reserved tag as a dictionary key.
-/
namespace Vakt.C13
open Vakt PyVal Serialize

def inquiryKeys : List (List Char) := ["resource".toList, "action".toList, "subject".toList, "context".toList]

/-- `Inquiry.to_json()` (the dictionary behind the text) -/
def inquiryToDoc (q : Inquiry) : Doc :=
  [("resource".toList, encVal q.resource), ("action".toList, encVal q.action), ("subject".toList, encVal q.subject),
   ("context".toList, encVal q.context)]

/-- `Inquiry.from_json`: an unknown key is an unexpected keyword argument (`none`); an absent one is `None` -/
def inquiryFromDoc (d : Doc) : Option Inquiry :=
  if d.any (fun kv => !inquiryKeys.contains kv.1) then Option.none
  else some (Inquiry.mk' (decVal (Serialize.get "resource" d)) (decVal (Serialize.get "action" d))
              (decVal (Serialize.get "subject" d)) (decVal (Serialize.get "context" d)))

def normV (v d : PyVal) : PyVal := if truthy v then v else d

theorem normV_idem (v d : PyVal) (hd : truthy d = false) : normV (normV v d) d = normV v d := by
  unfold normV
  cases hv : truthy v
  · simp [hd]
  · simp [hv]

theorem mk'_eq (r a s c : PyVal) :
    Inquiry.mk' r a s c = { resource := normV r (.str []), action := normV a (.str []), subject := normV s (.str []),
                            context := normV c (.dict []) } := rfl

theorem mk'_idem (r a s c : PyVal) :
    Inquiry.mk' (Inquiry.mk' r a s c).resource (Inquiry.mk' r a s c).action (Inquiry.mk' r a s c).subject
      (Inquiry.mk' r a s c).context = Inquiry.mk' r a s c := by
  rw [mk'_eq r a s c, mk'_eq]
  simp only [normV_idem _ _ (rfl : truthy (.str []) = false), normV_idem _ _ (rfl : truthy (.dict []) = false)]

theorem noTags_normV {v d : PyVal} (hv : noTags v = true) (hd : noTags d = true) : noTags (normV v d) = true := by
  unfold normV; split <;> assumption

theorem inquiryFromDoc_toDoc (q : Inquiry) (hr : noTags q.resource = true) (ha : noTags q.action = true)
    (hs : noTags q.subject = true) (hc : noTags q.context = true) :
    inquiryFromDoc (inquiryToDoc q) = some (Inquiry.mk' q.resource q.action q.subject q.context) := by
  -- by evaluation: the unknown-key test (`any .. !contains`) is false, each of the four lookups hits the encoded field, and each
  -- value decodes by `dec_enc_val`; literal keys are compared as strings, see `Proofs/Lits.lean`
  simp only [inquiryFromDoc, inquiryToDoc, inquiryKeys, Serialize.get, lookup, List.any_cons, List.any_nil, List.contains_cons,
    List.contains_nil, Bool.beq_eq_decide_eq, String.toList_inj, String.reduceEq, decide_true, decide_false, Bool.or_false,
    Bool.or_true, Bool.not_true, Bool.false_eq_true, ↓reduceIte, Option.getD_some, dec_enc_val _ hr,
    dec_enc_val _ ha, dec_enc_val _ hs, dec_enc_val _ hc]

/-- **JSON round trip**: what the constructor built (`Inquiry.mk'`) is read back from what `to_json` wrote -/
theorem inquiry_roundtrip (r a s c : PyVal)
    (hr : noTags r = true) (ha : noTags a = true) (hs : noTags s = true) (hc : noTags c = true) :
    inquiryFromDoc (inquiryToDoc (Inquiry.mk' r a s c)) = some (Inquiry.mk' r a s c) := by
  rw [inquiryFromDoc_toDoc _ (noTags_normV hr rfl) (noTags_normV ha rfl) (noTags_normV hs rfl) (noTags_normV hc rfl),
    mk'_idem]

/-- … so the inquiry read back is equal to the original and hashes alike -/
theorem inquiry_roundtrip_equal {τ η : Type} (render : PyVal → τ) (H : τ → η) (r a s c : PyVal)
    (hr : noTags r = true) (ha : noTags a = true) (hs : noTags s = true) (hc : noTags c = true) :
    ∃ q', inquiryFromDoc (inquiryToDoc (Inquiry.mk' r a s c)) = some q' ∧ q'.eqv (Inquiry.mk' r a s c) = true ∧
      H (render q'.canon) = H (render (Inquiry.mk' r a s c).canon) :=
  ⟨_, inquiry_roundtrip r a s c hr ha hs hc, (eq_iff_canon _ _).2 rfl, rfl⟩

/-- a document with a key the constructor does not know is refused -/
theorem inquiry_unknown_key_refused (d : Doc) (k : List Char) (v : PyVal) (hk : inquiryKeys.contains k = false)
    (hm : (k, v) ∈ d) : inquiryFromDoc d = Option.none := by
  have : d.any (fun kv => !inquiryKeys.contains kv.1) = true :=
    List.any_eq_true.2 ⟨(k, v), hm, by simp only [hk, Bool.not_false]⟩
  simp only [inquiryFromDoc, this, ↓reduceIte]

example : (inquiryFromDoc (inquiryToDoc (Inquiry.mk' (.tuple [.int 1, .dict [("k".toList, .none)]]) .none (.str "s".toList) (.list [])))).map
    (fun q => q.eqv { resource := .tuple [.int 1, .dict [("k".toList, .none)]], action := .str [], subject := .str "s".toList,
                      context := .dict [] }) = some true := by
  decide +kernel

end Vakt.C13
