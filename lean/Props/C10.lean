import Model.PolicyObj
/-!
# C10 — policy type always reflects its elements; invalid definitions are rejected

About `PolicyObj.setattr` (`Policy.__setattr__`: check the field, store, recompute `type`).  `TypeInv`, "the reported type is what
`calcType` gives for the stored elements", holds after every accepted assignment, hence over histories and out of the constructor.
-/
namespace Vakt.C10
open Vakt.PolicyObj

/-- the reported type is the type implied by the current elements -/
def TypeInv (o : PObj) : Prop := calcType o.subjects o.resources o.actions = some o.typ

/-- only storable kinds are ever stored in a definition field -/
def KindsInv (o : PObj) : Prop := ∀ k ∈ o.subjects ++ o.resources ++ o.actions, k ≠ EKind.other

theorem calcType_eq (s r a : List EKind) :
    calcType s r a = if ∀ k ∈ s ++ r ++ a, k = .str then some typeString
      else if ∀ k ∈ s ++ r ++ a, k = .rule then some typeRule else none := by
  simp only [calcType, List.all_eq_true, beq_iff_eq]

theorem empty_inv : TypeInv empty ∧ KindsInv empty := by
  constructor
  · simp [TypeInv, empty, calcType]
  · intro k hk; simp [empty] at hk

/-- every accepted assignment re-establishes the invariant (whatever attribute it targets, `type` included) -/
theorem setattr_inv (o o' : PObj) (name : String) (vid : Nat) (fv : FVal) (isDict : Bool)
    (h : setattr o name vid fv isDict = .ok o') : TypeInv o' := by
  unfold setattr at h
  cases hc : checkField name fv isDict with
  | some e => simp [hc] at h
  | none =>
    simp only [hc] at h
    split at h
    · cases h
    · rename_i t ht
      simp only [Except.ok.injEq] at h
      subst h
      exact ht

/-- a rejected assignment leaves the policy as it was: `setattr` then returns no object, and over histories `run` skips it -/
theorem setattr_reject_unchanged (o : PObj) (a : Assign) (rest : List Assign) (e : Err)
    (h : setattr o a.name a.vid a.fv a.isDict = .error e) : run o (a :: rest) = run o rest := by
  simp [run, h]

theorem typeField_not_def : isDefField "type" = false := by decide

/-- the type cannot be set directly: assigning `type` stores nothing and recomputes -/
theorem set_type_ignored (o o' : PObj) (vid : Nat) (fv : FVal) (isDict : Bool) (hi : TypeInv o)
    (h : setattr o "type" vid fv isDict = .ok o') : o' = o := by
  unfold setattr at h
  have hc : checkField "type" fv isDict = none := by
    simp [checkField, typeField_not_def]
  have e2 : ("type" == "subjects") = false := by decide
  have e3 : ("type" == "resources") = false := by decide
  have e4 : ("type" == "actions") = false := by decide
  simp only [hc, e2, e3, e4, Bool.false_eq_true, ↓reduceIte] at h
  unfold TypeInv at hi
  rw [hi] at h
  simp only [beq_self_eq_true, ↓reduceIte, Except.ok.injEq] at h
  rw [← h]

/-- mixed elements are rejected: if the three fields hold both a string and a rule (or dict) element, `calcType` is `none`,
which is the `PolicyCreationError` of `setattr` -/
theorem mixed_rejected (s r a : List EKind) (h1 : EKind.str ∈ s ++ r ++ a) (h2 : EKind.rule ∈ s ++ r ++ a) :
    calcType s r a = none := by
  rw [calcType_eq, if_neg (fun h => nomatch h _ h2), if_neg (fun h => nomatch h _ h1)]

/-- in a definition field, an element that is neither a string nor a rule or dictionary raises `PolicyCreationError`, whether it
comes in a sequence or from a one-shot iterator, and a value that cannot be iterated raises `TypeError` -/
theorem illtyped_rejected (o : PObj) (name : String) (vid : Nat) (ks : List EKind) (isDict : Bool)
    (hd : isDefField name = true) (hk : EKind.other ∈ ks) :
    setattr o name vid (.seq ks) isDict = .error .creation ∧
    setattr o name vid .scalar isDict = .error .typeError ∧
    setattr o name vid (.iter ks) isDict = .error .creation := by
  have : ks.any (· == EKind.other) = true := List.any_eq_true.2 ⟨_, hk, by decide⟩
  refine ⟨?_, ?_, ?_⟩
  · simp [setattr, checkField, hd, this]
  · simp [setattr, checkField, hd]
  · simp [setattr, checkField, hd, this]

/-- a one-shot iterator that passes the element check is stored exhausted: the field then counts as empty -/
theorem iterator_counts_as_empty (o : PObj) (name : String) (vid : Nat) (ks : List EKind) (isDict : Bool)
    (hk : ks.any (· == EKind.other) = false) :
    setattr o name vid (.iter ks) isDict = setattr o name vid (.seq []) isDict := by
  unfold setattr checkField
  by_cases hd : isDefField name = true <;> simp [hd, hk, kindsOf]

theorem context_nondict_rejected (o : PObj) (vid : Nat) (fv : FVal) :
    setattr o "context" vid fv false = .error .creation := by
  have : isDefField "context" = false := by decide
  simp [setattr, checkField, this]

/-- string-based when all elements are strings or there are none; rule-based when all are rules or dicts -/
theorem type_meaning (s r a : List EKind) :
    (calcType s r a = some typeString ↔ ∀ k ∈ s ++ r ++ a, k = EKind.str) ∧
    ((∃ k, k ∈ s ++ r ++ a) → (calcType s r a = some typeRule ↔ ∀ k ∈ s ++ r ++ a, k = EKind.rule)) := by
  have hne : typeString ≠ typeRule := by decide
  rw [calcType_eq]
  generalize s ++ r ++ a = l
  -- three cases, as `calcType` has them; in each, both sides of an iff have the same truth value
  by_cases hs : ∀ k ∈ l, k = EKind.str
  · rw [if_pos hs]
    -- all strings: the first iff is true; with an element present not all are rules, so the second is false
    refine ⟨iff_of_true rfl hs, fun ⟨k0, hk0⟩ => iff_of_false (fun h => hne (Option.some.inj h)) fun hr => ?_⟩
    exact nomatch (hs k0 hk0).symm.trans (hr k0 hk0)
  · rw [if_neg hs]
    by_cases hr : ∀ k ∈ l, k = EKind.rule
    · rw [if_pos hr]       -- all rules: the first iff is false, the second true
      exact ⟨iff_of_false (fun h => hne (Option.some.inj h).symm) hs, fun _ => iff_of_true rfl hr⟩
    · rw [if_neg hr]       -- mixed: `none`, both false
      exact ⟨iff_of_false (fun h => nomatch h) hs, fun _ => iff_of_false (fun h => nomatch h) hr⟩

/-- over any history of assignments (valid, invalid, direct `type` assignments) the invariant holds -/
theorem history_inv (as : List Assign) : ∀ o : PObj, TypeInv o → TypeInv (run o as) := by
  induction as with
  | nil => intro o h; exact h
  | cons a rest ih =>
    intro o h
    simp only [run]
    cases hs : setattr o a.name a.vid a.fv a.isDict with
    | ok o' => exact ih o' (setattr_inv o o' _ _ _ _ hs)
    | error e => exact ih o h

/-- the constructor either fails or returns an object satisfying the invariant -/
theorem ctor_inv (as : List Assign) : ∀ o o' : PObj, TypeInv o → construct as o = .ok o' → TypeInv o' := by
  induction as with
  | nil => intro o o' h hc; simp [construct] at hc; subst hc; exact h
  | cons a rest ih =>
    intro o o' h hc
    simp only [construct] at hc
    cases hs : setattr o a.name a.vid a.fv a.isDict with
    | ok o1 => rw [hs] at hc; exact ih o1 o' (setattr_inv o o1 _ _ _ _ hs) hc
    | error e => rw [hs] at hc; cases hc

example : (run empty [⟨"subjects", 1, .seq [.str], false⟩, ⟨"actions", 2, .seq [.rule], false⟩,
    ⟨"subjects", 3, .seq [], false⟩, ⟨"actions", 4, .seq [.rule], false⟩, ⟨"type", 5, .scalar, false⟩]).typ = typeRule := by
  decide

end Vakt.C10
