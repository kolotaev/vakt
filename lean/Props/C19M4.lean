import Proofs.StorageCodec
import Props.C09Storage
import Model.MongoMig
/-!
# C19 (continued) — migration 4 `up`: re-saving every policy through the current storage

`Migration1x2x0To1x4x0.up` reads every stored document through `__prepare_from_doc` and writes it back with
`MongoStorage.update` — a `$set` of the freshly prepared document (`StorageCodec.mongoDoc`) onto the stored one.  A document the
reader cannot rebuild, or an element that does not compile, makes the step raise (`none`): the version is not recorded (C18).
-/
namespace Vakt.C19
open Vakt PyVal Serialize RuleCodec StorageCodec MongoMig

/-- migration 4 `up` on one stored document -/
def m4upDoc (c : Compile) (n : Nat) (stag etag : Char) (d : Doc) : Option Doc :=
  match fromMongoDoc n stag etag d with
  | some p => (mongoDoc c p).map (fun nd => setAll nd d)
  | Option.none => Option.none

/-- the 1.2.0-layout document of a policy: its JSON document and `_id` -/
def doc120 (p : Policy) : Doc := encPolicy p (.int (typeOf p)) ++ [(kId, p.uid)]

theorem doc120_shape (p : Policy) : Shape (doc120 p) p (.int (typeOf p)) [(kId, p.uid)] :=
  ⟨rfl, fun kv h => by simp only [List.mem_cons, List.mem_nil_iff, or_false] at h; subst h; simp [addedKeys]⟩

/-- the `$set` keeps the `Shape`, with the new added part laid over the old -/
theorem m4upDoc_shape {c : Compile} {p : Policy} {t : PyVal} {x d d' : Doc} {n : Nat}
    (hs : Shape d p t x) (hw : Policy.wf p = true) (hn : Policy.depth p ≤ n)
    (h : m4upDoc c n p.stag p.etag d = some d') :
    ∃ cx, Shape d' p (.int (typeOf p)) (setAll (setKey kId p.uid cx) x) ∧
      (∀ kv ∈ cx, kv.1 ∈ [kActionsC, kSubjectsC, kResourcesC]) ∧
      (strBased p = true → ∃ a s r,
        cx = setKey kResourcesC (.list r) (setKey kSubjectsC (.list s) (setKey kActionsC (.list a) []))) := by
  rw [m4upDoc, C09.fromMongoDoc_of_shape hs hw n hn] at h
  obtain ⟨nd, hm, rfl⟩ := Option.map_eq_some_iff.1 h
  obtain ⟨cx, hs1, hk, hx⟩ := mongoDoc_shape c p nd hm
  exact ⟨cx, update_shape hs hs1, hk, hx⟩

/-- the re-saved document reads back as the policy that was stored — for any stored document of that policy, whatever added
keys (`x`) it already carried -/
theorem m4up_preserves_policy (c : Compile) (p : Policy) (t : PyVal) (x d d' : Doc) (n : Nat)
    (hs : Shape d p t x) (hw : Policy.wf p = true) (hn : Policy.depth p ≤ n)
    (h : m4upDoc c n p.stag p.etag d = some d') :
    fromMongoDoc n p.stag p.etag d' = some p := by
  obtain ⟨_, hs', _⟩ := m4upDoc_shape hs hw hn h
  exact C09.fromMongoDoc_of_shape hs' hw n hn

/-- `m4down` keeps the entries whose key satisfies this -/
def notCompiled (k : List Char) : Bool := !(compiledFields.map String.toList).contains k

theorem compiled_eq : compiledFields.map String.toList = [kActionsC, kSubjectsC, kResourcesC] := by
  simp only [compiledFields, List.map_cons, List.map_nil]; rfl

theorem notCompiled_iff {k : List Char} : notCompiled k = true ↔ k ∉ [kActionsC, kSubjectsC, kResourcesC] := by
  rw [notCompiled, compiled_eq, Bool.not_eq_true', ← Bool.not_eq_true, List.contains_iff_mem]

theorem notCompiled_kId : notCompiled kId = true := by
  rw [notCompiled_iff, List.mem_cons, List.mem_cons, List.mem_singleton]
  exact fun h => h.elim (toList_ne (by simp)) fun h => h.elim (toList_ne (by simp)) (toList_ne (by simp))

/-- migration 4 `down` (drop the compiled arrays) of a document of that shape -/
theorem m4down_shape {d : Doc} {p : Policy} {t : PyVal} {x : Doc} (hs : Shape d p t x) :
    m4down d = .ok (encPolicy p t ++ x.filter fun kv => notCompiled kv.1) := by
  rw [hs.eq, m4down, List.filter_append, List.filter_eq_self.2]; rfl
  exact fun kv hkv => notCompiled_iff.2 fun h => encPolicy_not_added p t kv hkv (List.mem_cons_of_mem _ h)

/-- **up then down restores the 1.2.0 layout**: dropping the compiled arrays of the re-saved document gives back the
document it started from -/
theorem m4down_m4up (c : Compile) (p : Policy) (d' : Doc) (n : Nat)
    (hw : Policy.wf p = true) (hn : Policy.depth p ≤ n)
    (h : m4upDoc c n p.stag p.etag (doc120 p) = some d') :
    m4down d' = .ok (doc120 p) := by
  obtain ⟨cx, hs', hk, _⟩ := m4upDoc_shape (doc120_shape p) hw hn h
  have hcx : cx.filter (fun kv => notCompiled kv.1) = [] :=
    List.filter_eq_nil_iff.2 fun kv hkv h => notCompiled_iff.1 h (hk kv hkv)
  -- of what was laid over `_id`, only the assignment of `_id` itself survives the filter
  rw [m4down_shape hs', filter_setAll, filter_setKey, notCompiled_kId, if_pos rfl, hcx, List.filter_cons, notCompiled_kId,
    if_pos rfl, List.filter_nil]
  simp only [setKey, setAll, List.foldl, ↓reduceIte, doc120]

/-- a string-based policy gets its three compiled arrays -/
theorem m4up_adds_compiled (c : Compile) (p : Policy) (d' : Doc) (n : Nat)
    (hw : Policy.wf p = true) (hn : Policy.depth p ≤ n) (hsb : strBased p = true)
    (h : m4upDoc c n p.stag p.etag (doc120 p) = some d') :
    (lookup kActionsC d').isSome = true ∧ (lookup kSubjectsC d').isSome = true ∧ (lookup kResourcesC d').isSome = true := by
  obtain ⟨cx, hs', _, hx⟩ := m4upDoc_shape (doc120_shape p) hw hn h
  obtain ⟨a, s, r, hcx⟩ := hx hsb
  rw [hs'.lookup_added (by simp [addedKeys]), hs'.lookup_added (by simp [addedKeys]), hs'.lookup_added (by simp [addedKeys]), hcx]
  simp only [isSome_lookup_setAll, isSome_lookup_setKey, true_or, or_true, and_self]

/-- a stored document the reader cannot rebuild, or an element that does not compile: the step raises -/
theorem m4up_failure (c : Compile) (n : Nat) (stag etag : Char) (d : Doc)
    (h : fromMongoDoc n stag etag d = Option.none ∨ ∃ p, fromMongoDoc n stag etag d = some p ∧ mongoDoc c p = Option.none) :
    m4upDoc c n stag etag d = Option.none := by
  unfold m4upDoc
  rcases h with h | ⟨p, hp, hm⟩
  · simp [h]
  · simp [hp, hm]

example :
    let comp : Compile := fun _ _ s => some ('^' :: s ++ ['$'])
    let p : Policy := { uid := .str "u".toList, effect := .str Generated.allowConst, description := .none,
                        subjects := [.str "<a.*>".toList], resources := [.str "r".toList], actions := [.str "get".toList],
                        context := [], stag := '<', etag := '>' }
    ((m4upDoc comp 3 '<' '>' (doc120 p)).map (fun d => d.length) == some 12) = true := by
  decide +kernel

end Vakt.C19
