import Model.Audit
import Proofs.Guard
/-!
# C17 — audit and decision logs tell the truth about each decision

The audit record is the second component of `decideFiltered` (`Model/Guard.lean`), so its three fields are read off
`decideFiltered_cases`; when a record is emitted at all is `auditOf`; the rendering of the candidates is `renderMsg`
(`Model/Audit.lean`).
-/
namespace Vakt.C17
open Vakt PyVal

theorem decideFiltered_audit (fl : List Policy) :
    (decideFiltered fl).2.allow = (decideFiltered fl).1 ∧ (decideFiltered fl).2.candidates = fl := by
  rcases decideFiltered_cases fl with ⟨rfl, h⟩ | ⟨p, _, _, h⟩ | ⟨_, _, h⟩ <;> rw [h] <;> exact ⟨rfl, rfl⟩

/-- the audit record's effect equals the returned answer -/
theorem audit_effect_eq_answer (m : Policy → R) (ans : StoreAns) (b : Bool) (a : AuditRec)
    (h : decideAns m ans = .ok (b, a)) : a.allow = b := by
  cases ans with
  | raises => cases h
  | nothing => cases h; rfl
  | items xs fa =>
    obtain ⟨_, hc⟩ := (decideAns_items_eq_ok_iff m xs fa _).1 h
    obtain ⟨_, e⟩ := (decideCore_eq_ok_iff m xs _).1 hc
    have := (decideFiltered_audit (xs.filter fun p => isOkTrue (m p))).1
    rwa [← e] at this

/-- the candidates are exactly the policies that matched, in storage order -/
theorem audit_candidates_eq_matching (m : Policy → R) (xs : List Policy) (b : Bool) (a : AuditRec)
    (hr : NoRaise m xs) (h : decideCore m xs = .ok (b, a)) :
    a.candidates = xs.filter (fun p => isOkTrue (m p)) := by
  have hc : decideCore m xs = .ok (decideFiltered (xs.filter fun p => isOkTrue (m p))) :=
    (decideCore_eq_ok_iff m xs _).2 ⟨hr, rfl⟩
  have e : (b, a) = decideFiltered (xs.filter fun p => isOkTrue (m p)) := Except.ok.inj (h.symm.trans hc)
  have := (decideFiltered_audit (xs.filter fun p => isOkTrue (m p))).2
  rwa [← e] at this

/-- deciders: all candidates when allowed, a single non-allow candidate when vetoed, none when
nothing matched -/
theorem audit_deciders (fl : List Policy) :
    ((decideFiltered fl).1 = true → (decideFiltered fl).2.deciders = fl ∧ fl ≠ []) ∧
    (fl = [] → (decideFiltered fl).2.deciders = [] ∧ (decideFiltered fl).1 = false) ∧
    ((decideFiltered fl).1 = false → fl ≠ [] →
      ∃ p, (decideFiltered fl).2.deciders = [p] ∧ p ∈ fl ∧ p.allowAccess = false) := by
  rcases decideFiltered_cases fl with ⟨rfl, h⟩ | ⟨p, hp, ha, h⟩ | ⟨hne, hall, h⟩ <;> rw [h]
  · exact ⟨fun h => (nomatch h), fun _ => ⟨rfl, rfl⟩, fun _ h => absurd rfl h⟩
  · exact ⟨fun h => (nomatch h), fun h => (nomatch h ▸ hp), fun _ _ => ⟨p, rfl, hp, ha⟩⟩
  · exact ⟨fun _ => ⟨rfl, hne⟩, fun h => absurd h hne, fun h => (nomatch h)⟩

/-- a decision that completes evaluation emits exactly one audit record … -/
theorem exactly_one_audit_when_completed (m : Policy → R) (xs : List Policy) (fa : Option Nat)
    (r : Bool × AuditRec) (h : decideAns m (.items xs fa) = .ok r) :
    (auditOf m (.items xs fa)).length = 1 := by
  simp [auditOf, h]

/-- … and one that raised emits none -/
theorem no_audit_when_raised (m : Policy → R) (ans : StoreAns) (e : PyErr)
    (h : decideAns m ans = .error e) : auditOf m ans = [] := by
  cases ans <;> simp_all [auditOf]

/-- every call emits exactly one decision-log record, and it agrees with the answer -/
theorem decision_log_once_and_agrees (m : Policy → R) (ans : StoreAns) :
    (isAllowedLogged m ans).2.1 = [⟨(isAllowedLogged m ans).1⟩] := rfl

/-- rendering: by count, or not at all -/
theorem render_count_nop (ps : List Policy) :
    renderMsg .count ps = "count = ".toList ++ natDigits ps.length ∧ renderMsg .nop ps = [] := ⟨rfl, rfl⟩

/-- rendering by uid / by description names exactly the given policies, in order -/
theorem render_uid_desc (ps : List Policy) :
    renderMsg .uid ps = "[".toList ++ intercalate ", ".toList (ps.map fun p => strOf p.uid) ++ "]".toList ∧
    renderMsg .desc ps = "[".toList ++ intercalate ", ".toList
      (ps.map fun p => "'".toList ++ strOf p.description ++ "'".toList) ++ "]".toList := ⟨rfl, rfl⟩

end Vakt.C17
