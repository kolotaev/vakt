import Proofs.TagParser
import Proofs.Checker
import Proofs.Cache
import Proofs.TagIndex
import Proofs.PyVal
/-!
# C03 — regex policy language: literal text, tagged segments, whole-string match

`TagParser.scan` is the observable content of `get_tag_indices` + the slicing loop of
`compile_regex`; `regexElem` is one iteration of `RegexChecker.fits`.
-/
namespace Vakt.C03
open Vakt TagParser

/-- the pieces re-assemble to the element: nothing is dropped, duplicated or reordered -/
theorem scan_render (s t : Char) (e : List Char) (ps : List Piece) (h : scan s t e = some ps) :
    render s t ps = e :=
  (scan_sound h).2

/-- every decomposition according to the grammar is what the scanner finds -/
theorem scan_complete (s t : Char) (hst : s ≠ t) (ps : List Piece) (hd : Decomp s t ps) :
    scan s t (render s t ps) = some ps := by
  obtain ⟨l0, rest, hps, h⟩ := scanAux_complete s t hst ps hd []
  simpa [scan, hps] using h []

/-- grammar theorem: the element is split into `Lit (Seg Lit)*` — literals without delimiters,
segments with depth-balanced bodies — exactly when, and exactly as, the grammar says -/
theorem pieces_grammar (s t : Char) (hst : s ≠ t) (e : List Char) (ps : List Piece) :
    scan s t e = some ps ↔ Decomp s t ps ∧ render s t ps = e :=
  ⟨scan_sound, fun ⟨hd, he⟩ => he ▸ scan_complete s t hst ps hd⟩

/-- the decomposition is unique (so the number of segments is determined by the element) -/
theorem decomp_unique (s t : Char) (hst : s ≠ t) (ps ps' : List Piece)
    (h : Decomp s t ps) (h' : Decomp s t ps') (he : render s t ps = render s t ps') : ps = ps' := by
  have h1 := scan_complete s t hst ps h
  have h2 := scan_complete s t hst ps' h'
  rw [he, h2] at h1
  exact (Option.some.inj h1).symm

/-- the implementation's two-stage form — `get_tag_indices` walking the phrase with a position
counter, then the slicing loop of `compile_regex` cutting `phrase[end:idx]` / `phrase[idx+1:end-1]`
— computes exactly the scanner's decomposition and fails exactly when it does; every theorem above
about `scan` is therefore a theorem about the index form -/
theorem index_form_eq_scanner (s t : Char) (e : List Char) : scanByIndex s t e = scan s t e :=
  scanByIndex_eq_scan s t e

/-- an element with unbalanced delimiters never matches: it ends the scan of the whole field (`.done`), fail-closed -/
theorem unbalanced_never (s t : Char) (e : List Char) (what : PyVal)
    (htag : tagged s t e = true) (h : scan s t e = none) :
    regexElem s t e what = .done (.ok false) :=
  regexElem_unbalanced htag h what

/-- an element without delimiters matches by exact equality only -/
theorem untagged_eq (s t : Char) (e : List Char) (what : PyVal) (htag : tagged s t e = false) :
    (regexElem s t e what = .done (.ok true) ↔ what = .str e) ∧
    (regexElem s t e what = .done (.ok true) ∨ regexElem s t e what = .next) := by
  simp only [regexElem_untagged htag, ← pyEq_str_left]
  split <;> simp [*]

/-- a tagged element matches a string value iff the value splits, in order, into pieces that
equal the literals and are words of the segments' regular expressions — nothing left over at
either end -/
theorem elem_split (s t : Char) (e : List Char) (ps : List Piece) (r : Re) (rest : List Char) (w : List Char)
    (htag : tagged s t e = true) (hscan : scan s t e = some ps) (hre : piecesRe ps = .ok r rest) :
    regexElem s t e (.str w) = .done (.ok true) ↔ PiecesMatch ps w := by
  rw [regexElem_compiled htag hscan hre, ← piecesRe_lang ps r rest hre w, ← Re.accepts_iff]
  cases r.accepts w <;> simp

/-- the compile cache of `RegexChecker`: with any capacity, a lookup answers what an uncached compile would, and keeps
the cache honest -/
theorem compile_cache_transparent {κ ν : Type} [DecidableEq κ] (compile : κ → ν) (keep : ν → Bool)
    (c : Lru κ ν) (k : κ) (h : Lru.Inv compile c) :
    (c.call compile keep k).1 = compile k ∧ Lru.Inv compile (c.call compile keep k).2.2 :=
  Lru.call_transparent compile keep c k h

/-- … hence over any lookup history from an empty cache of any capacity (none, 0, n) -/
theorem cache_history_independent {κ ν : Type} [DecidableEq κ] (compile : κ → ν) (keep : ν → Bool)
    (cap : Option Nat) (ks : List κ) :
    (Lru.run compile keep (Lru.empty cap) ks).1 = ks.map compile :=
  (Lru.run_transparent compile keep ks _ (Lru.inv_empty compile cap)).1

example : scan '<' '>' "a<b+>c<d+>e".toList =
    some [.lit ['a'], .seg ['b', '+'], .lit ['c'], .seg ['d', '+'], .lit ['e']] := by decide
example : scan '<' '>' "a<b".toList = none ∧ scan '<' '>' "a>b<c".toList = none := by decide
example : regexElem '<' '>' "a<b+>c<d+>e".toList (.str "abbcdde".toList) = .done (.ok true) := by decide +kernel
-- the trailing-newline clause
example : regexElem '<' '>' "<abc>".toList (.str "abc\n".toList) = .next := by decide +kernel
example : regexElem '<' '>' "a.c".toList (.str "abc".toList) = .next := by decide +kernel

example : tagIndices '<' '>' "ab<c<d>>e<>".toList = some [(2, 8), (9, 11)] ∧
    scanByIndex '<' '>' "ab<c<d>>e<>".toList =
      some [Piece.lit "ab".toList, Piece.seg "c<d>".toList, Piece.lit "e".toList, Piece.seg [], Piece.lit []] := by
  decide +kernel

end Vakt.C03
