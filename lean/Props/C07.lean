import Proofs.Guard
import Proofs.Checker
/-!
# C07 — decisions do not depend on the storage backend

A storage may drop any policy that neither matches nor raises, and each shape of candidate selection (everything; by
policy type; by the exact / fuzzy query over the raw elements, `Model/Prefilter.lean`) drops only such policies.
-/
namespace Vakt.C07
open Vakt PyVal Vakt.Prefilter

/-- dropping policies that neither match nor raise changes nothing; extra candidates never matter -/
theorem filterM_superset (m : Policy → R) (keep : Policy → Bool) (ps : List Policy)
    (h : ∀ p ∈ ps, keep p = false → m p = .ok false) : filterM m (ps.filter keep) = filterM m ps := by
  induction ps with
  | nil => rfl
  | cons p rest ih =>
    have ih' := ih (fun x hx => h x (by simp [hx]))
    by_cases hk : keep p = true
    · simp only [List.filter_cons, hk, ↓reduceIte, filterM, ih']
    · have hk' : keep p = false := by simpa using hk
      have hm := h p (by simp) hk'
      simp only [List.filter_cons, hk', Bool.false_eq_true, ↓reduceIte, filterM, hm, ih']
      cases filterM m rest <;> rfl

/-- **superset theorem**: if every stored policy that the storage does not return (`keep p = false`) neither matches nor
raises, the decision over the returned candidates equals the decision over the whole store -/
theorem superset_ok (m : Policy → R) (keep : Policy → Bool) (ps : List Policy)
    (h : ∀ p ∈ ps, keep p = false → m p = .ok false) : decide m (ps.filter keep) = decide m ps :=
  decide_congr_filterM (filterM_superset m keep ps h)

/-- every policy is string-based or rule-based (C10: mixed definitions cannot exist) -/
def WellTyped (p : Policy) : Prop := isStringTyped p = true ∨ isRuleTyped p = true

theorem rule_typed_fields (p : Policy) (h : isRuleTyped p = true) (f : Field) :
    ∀ e ∈ p.field f, e.isStr = false := by
  simp only [isRuleTyped, Bool.and_eq_true, List.all_eq_true, Bool.not_eq_true'] at h
  intro e he
  apply h.2 e
  cases f <;> simp [Policy.field] at he <;> simp [he]

theorem string_typed_fields (p : Policy) (h : isStringTyped p = true) (f : Field) :
    ∀ e ∈ p.field f, e.isStr = true := by
  simp only [isStringTyped, List.all_eq_true] at h
  intro e he
  apply h e
  cases f <;> simp [Policy.field] at he <;> simp [he]

/-- a policy of the other type never matches and never raises (`fits_other_type`, the fact behind C06) -/
theorem other_type_no_match (k : CheckerKind) (q : Inquiry) (p : Policy) (hw : WellTyped p) :
    (k ≠ .rules → isStringTyped p = false → guardMatch k q p = .ok false) ∧
    (k = .rules → isRuleTyped p = false → guardMatch k q p = .ok false) :=
  ⟨fun hk hs => guardMatch_of_actions_false k q p
      ((fits_other_type k p .actions q.action q).1 hk
        (rule_typed_fields p (hw.resolve_left (Bool.eq_false_iff.1 hs)) .actions)),
   fun hk hr => guardMatch_of_actions_false k q p
      ((fits_other_type k p .actions q.action q).2 hk
        (string_typed_fields p (hw.resolve_right (Bool.eq_false_iff.1 hr)) .actions))⟩

/-- exact checker: a policy the SQL / Mongo query does not return does not match -/
theorem exact_query_sound (p : Policy) (f : Field) (w : List Char) (hd : defaultTags p)
    (h : exactField (p.field f) (.str w) = false) : exactFits p f (.str w) = .ok false := by
  rw [exactFits, exactLoop_str, hd.1, hd.2]
  simp only [exactField, List.any_eq_false, Bool.or_eq_true, beq_iff_eq, not_or] at h
  refine congrArg _ (List.any_eq_false.2 fun e he hi => ?_)
  -- an element whose inner text is the value is the value, bare or enclosed: the two spellings the query asks for
  rcases inner_eq_cases (by decide) e w (eq_of_beq hi).symm with e1 | e2
  · exact (h e he).1 e1
  · exact (h e he).2 e2

theorem inner_infix (s t : Char) (e : List Char) : inner s t e <:+: e := by
  cases e with
  | nil => simp [inner]
  | cons c r =>
    simp only [inner]
    split
    · exact List.IsInfix.trans (List.dropLast_prefix _).isInfix (List.drop_suffix 1 _).isInfix
    · exact List.infix_refl _

/-- fuzzy checker: a policy whose raw elements do not contain the value does not match -/
theorem fuzzy_query_sound (p : Policy) (f : Field) (w : List Char)
    (h : fuzzyField (p.field f) (.str w) = false) : fuzzyFits p f (.str w) = .ok false := by
  rw [fuzzyFits, fuzzyLoop_str]
  -- the value is not inside the raw element, so not inside its inner text either
  simp only [fuzzyField, List.any_eq_false, Bool.not_eq_true] at h
  refine congrArg _ (List.any_eq_false.2 fun e he hi => ?_)
  have := ((PyVal.isInfix_iff w _).1 hi).trans (inner_infix p.stag p.etag e)
  exact Bool.false_ne_true ((h e he).symm.trans ((PyVal.isInfix_iff w e).2 this))

/-- a string checker's query tests the stored type and one condition `cond` per field -/
theorem string_query_sound {k : CheckerKind} {q : Inquiry} {p : Policy} {a s r : List Char} (hk : k ≠ .rules)
    (hw : WellTyped p) (hq : q.action = .str a ∧ q.subject = .str s ∧ q.resource = .str r)
    (cond : Field → List Char → Bool)
    (h : isStringTyped p = true → ∀ f w,
      (∃ b, fits k p f (.str w) q = .ok b) ∧ (fits k p f (.str w) q = .ok true → cond f w = true))
    (hd : (isStringTyped p && cond .actions a && cond .resources r && cond .subjects s) = false) :
    guardMatch k q p = .ok false := by
  cases hst : isStringTyped p with
  | false => exact (other_type_no_match k q p hw).1 hk hst
  | true =>
    simp only [hst, Bool.true_and, Bool.and_eq_false_iff] at hd
    refine guardMatch_false hq (h hst _ _).1 (h hst _ _).1 (h hst _ _).1 fun ha hs hr => ?_
    rcases hd with (hd | hd) | hd
    · cases hd.symm.trans ((h hst _ _).2 ha)
    · cases hd.symm.trans ((h hst _ _).2 hr)
    · cases hd.symm.trans ((h hst _ _).2 hs)

/-- **per backend and checker**: a stored policy that `find_for_inquiry` does not return neither matches nor raises
(string inquiry values for the two string checkers; policies as read back, i.e. with the default tags) -/
theorem candidate_sound (b : Backend) (k : CheckerKind) (p : Policy) (q : Inquiry) (hw : WellTyped p)
    (hd : defaultTags p) (wa ws wr : List Char)
    (hq : (k = .exact ∨ k = .fuzzy) → q.action = .str wa ∧ q.subject = .str ws ∧ q.resource = .str wr)
    (h : candidate b k p q = false) : guardMatch k q p = .ok false := by
  have ot := other_type_no_match k q p hw
  cases b with
  | all => simp [candidate] at h
  | typeOnly =>
    cases k with
    | rules => exact ot.2 rfl (by simpa [candidate] using h)
    | regex | exact | fuzzy => exact ot.1 (by simp) (by simpa [candidate] using h)
  | query =>
    cases k with
    | rules => exact ot.2 rfl (by simpa [candidate] using h)
    | regex => exact ot.1 (by simp) (by simpa [candidate] using h)
    | exact =>
      have hq' := hq (Or.inl rfl)
      rw [candidate, hq'.1, hq'.2.1, hq'.2.2] at h
      -- a field that fits satisfies the query condition: the contrapositive of `exact_query_sound`
      refine string_query_sound (by simp) hw hq' (fun f w => exactField (p.field f) (.str w))
        (fun _ f w => ⟨⟨_, exactLoop_str ..⟩, fun hf => (Bool.not_eq_false _).mp fun hx => ?_⟩) h
      cases (exact_query_sound p f w hd hx).symm.trans hf
    | fuzzy =>
      have hq' := hq (Or.inr rfl)
      rw [candidate, hq'.1, hq'.2.1, hq'.2.2] at h
      -- likewise, of `fuzzy_query_sound`
      refine string_query_sound (by simp) hw hq' (fun f w => fuzzyField (p.field f) (.str w))
        (fun _ f w => ⟨⟨_, fuzzyLoop_str ..⟩, fun hf => (Bool.not_eq_false _).mp fun hx => ?_⟩) h
      cases (fuzzy_query_sound p f w hx).symm.trans hf

/-- **the decision over any backend equals the decision over the in-memory store** -/
theorem backend_decision_eq (b : Backend) (k : CheckerKind) (ps : List Policy) (q : Inquiry)
    (hw : ∀ p ∈ ps, WellTyped p) (hd : ∀ p ∈ ps, defaultTags p) (wa ws wr : List Char)
    (hq : (k = .exact ∨ k = .fuzzy) → q.action = .str wa ∧ q.subject = .str ws ∧ q.resource = .str wr) :
    guardDecide k (find b k ps q) q = guardDecide k ps q := by
  unfold guardDecide find
  apply superset_ok
  intro p hp hc
  exact candidate_sound b k p q (hw p hp) (hd p hp) wa ws wr hq hc

/-- the two probes of /repo this property rests on (which SQL dialects have a regex operator; from which MongoDB
version the regex prefilter is used) could be run: a probe that fails leaves its table empty and is named in
`Generated.probeFailures` -/
theorem probes_ok : ¬ ("sqlRegexDialects" ∈ Generated.probeFailures) ∧ ¬ ("mongo" ∈ Generated.probeFailures) := by decide

end Vakt.C07
