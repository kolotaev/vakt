import Model.Guard
import Proofs.Guard
/-!
# C01 — deny-overrides decision with default deny

`decide m ps` is `Guard.is_allowed` over a storage that hands back the policies `ps`, for an
arbitrary per-policy match function `m` (any checker, any context rules): `m p = .ok true` —
"p matches the inquiry", `.ok false` — it does not, `.error _` — evaluating it raised.
-/
namespace Vakt.C01
open Vakt PyVal

/-- allow ⇔ some policy matches and every matching policy has the allow effect -/
theorem decide_iff (m : Policy → R) (ps : List Policy) (h : NoRaise m ps) :
    decide m ps = true ↔
      (∃ p ∈ ps, m p = .ok true) ∧ (∀ p ∈ ps, m p = .ok true → p.allowAccess = true) :=
  Vakt.decide_iff m ps h

/-- default deny -/
theorem decide_no_match (m : Policy → R) (ps : List Policy) (h : ∀ p ∈ ps, m p = .ok false) :
    decide m ps = false :=
  Vakt.decide_no_match m ps h

/-- a matching policy without the allow effect vetoes — whatever else matches, whatever raises -/
theorem decide_veto (m : Policy → R) (ps : List Policy) (p : Policy)
    (hp : p ∈ ps) (hm : m p = .ok true) (he : p.allowAccess = false) : decide m ps = false :=
  Vakt.decide_veto m ps p hp hm he

/-- a raise while evaluating any stored policy denies -/
theorem decide_raise (m : Policy → R) (ps : List Policy) (p : Policy) (hp : p ∈ ps)
    (e : PyErr) (he : m p = .error e) : decide m ps = false :=
  Vakt.decide_raise m ps p hp e he

/-- insertion order is irrelevant (raises included) -/
theorem decide_perm (m : Policy → R) (ps ps' : List Policy) (hperm : ps.Perm ps') :
    decide m ps = decide m ps' :=
  Vakt.decide_mem_congr m ps ps' (fun _ => hperm.mem_iff)

/-- re-labelling uids changes nothing, for every checker kind -/
theorem decide_uid_irrelevant (k : CheckerKind) (q : Inquiry) (ps : List Policy) (u : Policy → PyVal) :
    guardDecide k (ps.map fun p => { p with uid := u p }) q = guardDecide k ps q :=
  -- no checker reads `uid`: once the kind is known, `guardMatch` of the relabelled policy and of the policy unfold to the same term
  Vakt.decide_map_congr _ _ _ ps (fun _ _ => by cases k <;> rfl) (fun _ _ => rfl)

/-- storing a policy twice changes nothing -/
theorem decide_dup (m : Policy → R) (p : Policy) (ps : List Policy) :
    decide m (p :: p :: ps) = decide m (p :: ps) :=
  Vakt.decide_mem_congr m _ _ (fun x => by simp)

/-- only the exact allow constant counts as allow: `'ALLOW'`, `None`, `''`, `1`, `True` all veto -/
theorem allow_exact_constant (p : Policy) :
    p.allowAccess = true ↔ p.effect = .str Generated.allowConst := by
  unfold Policy.allowAccess
  exact Vakt.pyEq_str_right _ _

/-- the statement for the real guard: checker kind `k`, context restrictions included -/
theorem guard_decide_iff (k : CheckerKind) (q : Inquiry) (ps : List Policy)
    (h : NoRaise (guardMatch k q) ps) :
    guardDecide k ps q = true ↔
      (∃ p ∈ ps, guardMatch k q p = .ok true) ∧
      (∀ p ∈ ps, guardMatch k q p = .ok true → p.effect = .str Generated.allowConst) := by
  unfold guardDecide
  rw [Vakt.decide_iff _ _ h]
  simp only [allow_exact_constant]

/-! ### Non-vacuity -/
private def pol (uid : Int) (eff : String) (act : String) : Policy :=
  { uid := .int uid, effect := .str eff.toList, description := .none, subjects := [.str "s".toList],
    resources := [.str "r".toList], actions := [.str act.toList], context := [], stag := '<', etag := '>' }
private def inq : Inquiry :=
  { resource := .str "r".toList, action := .str "get".toList, subject := .str "s".toList, context := .dict [] }

example : guardDecide .regex [pol 1 "allow" "<g.t>", pol 2 "deny" "put"] inq = true := by decide
example : guardDecide .regex [pol 1 "allow" "<g.t>", pol 2 "ALLOW" "get"] inq = false := by decide
example : NoRaise (guardMatch .regex inq) [pol 1 "allow" "<g.t>", pol 2 "deny" "put"] := by
  intro p hp
  simp at hp
  rcases hp with rfl | rfl
  · exact ⟨true, by decide⟩
  · exact ⟨false, by decide⟩

end Vakt.C01
