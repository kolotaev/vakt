import Model.Rules
import Proofs.Regex  -- audited with C05: `Re.accepts_iff`, `matchesPrefix_iff`, `acceptsDollar_iff`
import Proofs.Rules
/-!
# C05 — built-in rules mean what they say and compose as boolean algebra

`Rule.eval` is the model of `Rule.satisfied`.  `PyErr` has a single value, so "raises" is one outcome.
-/
namespace Vakt.C05
open Vakt PyVal Rule

/-- `Eq` is Python `==` (a tuple *argument* is compared as a list) -/
theorem eq_iff (v w : PyVal) (q : Option Inquiry) :
    eval (.eq v) w q = .ok (pyEq (tupleToList v) w) := rfl

theorem notEq_compl (v w : PyVal) (q : Option Inquiry) :
    eval (.notEq v) w q = (eval (.eq v) w q).map (!·) := rfl

/-- the four ordering rules are the Python operators with the offered value on the left -/
theorem ordering_ops (v w : PyVal) (q : Option Inquiry) :
    eval (.greater v) w q = pyGt w v ∧ eval (.less v) w q = pyLt w v ∧
    eval (.greaterOrEqual v) w q = pyGe w v ∧ eval (.lessOrEqual v) w q = pyLe w v :=
  ⟨rfl, rfl, rfl, rfl⟩

theorem notIn_compl (d : List PyVal) (w : PyVal) (q : Option Inquiry) :
    eval (.notIn d) w q = (eval (.isIn d) w q).map (!·) := rfl

theorem allNotIn_compl (d : List PyVal) (w : PyVal) (q : Option Inquiry) :
    eval (.allNotIn d) w q = (eval (.allIn d) w q).map (!·) := by
  simp only [eval]
  cases w with
  | list xs => dsimp only; cases toSet xs <;> rfl
  | _ => rfl

/-- `AnyNotIn` ("some offered item is outside") is the complement of `AllIn`, not of `AnyIn`: it equals `AllNotIn` -/
theorem anyNotIn_eq_allNotIn (d : List PyVal) (w : PyVal) (q : Option Inquiry) :
    eval (.anyNotIn d) w q = eval (.allNotIn d) w q := by
  simp only [eval, List.not_all_eq_any_not]

theorem falsy_compl (w : PyVal) (q : Option Inquiry) :
    eval .falsy w q = (eval .truthy w q).map (!·) := rfl

theorem neither_compl (w : PyVal) (q : Option Inquiry) :
    eval .neither w q = (eval .any w q).map (!·) := rfl

theorem not_negates (r : Rule) (w : PyVal) (q : Option Inquiry) :
    eval (.not r) w q = (eval r w q).map (!·) := rfl

theorem not_not (r : Rule) (w : PyVal) (q : Option Inquiry) :
    eval (.not (.not r)) w q = eval r w q := by
  simp only [eval]
  cases eval r w q <;> simp [Except.map]

/-- `And` over non-raising operands: satisfied iff non-empty and every operand is satisfied -/
theorem and_ok_iff (rs : List Rule) (w : PyVal) (q : Option Inquiry)
    (h : ∀ r ∈ rs, ∃ b, eval r w q = .ok b) :
    (∃ b, eval (.and rs) w q = .ok b) ∧
    (eval (.and rs) w q = .ok true ↔ rs ≠ [] ∧ ∀ r ∈ rs, eval r w q = .ok true) :=
  Rule.and_ok_iff rs w q h

/-- `And` evaluates every operand: it raises iff some operand raises -/
theorem and_raises_iff (rs : List Rule) (w : PyVal) (q : Option Inquiry) :
    (∃ e, eval (.and rs) w q = .error e) ↔ ∃ r ∈ rs, ∃ e, eval r w q = .error e :=
  Rule.and_raises_iff rs w q

theorem and_nil (w : PyVal) (q : Option Inquiry) : eval (.and []) w q = .ok false := rfl

/-- `Or` short-circuits: satisfied iff some operand is satisfied and all before it are unsatisfied
without raising -/
theorem or_ok_true_iff (rs : List Rule) (w : PyVal) (q : Option Inquiry) :
    eval (.or rs) w q = .ok true ↔
      ∃ pre r post, rs = pre ++ r :: post ∧ eval r w q = .ok true ∧ ∀ x ∈ pre, eval x w q = .ok false :=
  Rule.or_ok_true_iff rs w q

theorem or_nil (w : PyVal) (q : Option Inquiry) : eval (.or []) w q = .ok false := rfl

/-- conjunction is commutative, raises included (every operand is evaluated in any order) -/
theorem and_perm (rs rs' : List Rule) (w : PyVal) (q : Option Inquiry) (hp : rs.Perm rs') :
    eval (.and rs) w q = eval (.and rs') w q :=
  Rule.and_perm rs rs' w q hp

/-- disjunction is commutative when no operand raises -/
theorem or_perm_noraise (rs rs' : List Rule) (w : PyVal) (q : Option Inquiry) (hp : rs.Perm rs')
    (h : ∀ r ∈ rs, ∃ b, eval r w q = .ok b) :
    eval (.or rs) w q = eval (.or rs') w q :=
  Rule.or_perm_noraise rs rs' w q hp h

/-- De Morgan, on non-empty non-raising operand lists -/
theorem de_morgan (rs : List Rule) (w : PyVal) (q : Option Inquiry) (hne : rs ≠ [])
    (h : ∀ r ∈ rs, ∃ b, eval r w q = .ok b) :
    eval (.not (.and rs)) w q = eval (.or (rs.map .not)) w q :=
  Rule.de_morgan rs w q hne h

/-- string rules never match (and never raise on) a non-`str` value -/
theorem string_rules_nonstr (v : List Char) (ci : Bool) (w : PyVal) (q : Option Inquiry)
    (hw : isStr w = false) :
    eval (.strEqual v ci) w q = .ok false ∧ eval (.startsWith v ci) w q = .ok false ∧
    eval (.endsWith v ci) w q = .ok false ∧ eval (.contains v ci) w q = .ok false := by
  cases w with
  | str s => cases hw
  | _ => exact ⟨rfl, rfl, rfl, rfl⟩

theorem string_rules_fold (v s : List Char) (ci : Bool) (q : Option Inquiry) :
    eval (.strEqual v ci) (.str s) q = .ok (fold ci s == fold ci v) ∧
    eval (.startsWith v ci) (.str s) q = .ok ((fold ci v).isPrefixOf (fold ci s)) ∧
    eval (.endsWith v ci) (.str s) q = .ok ((fold ci v).isSuffixOf (fold ci s)) ∧
    (eval (.contains v ci) (.str s) q = .ok true ↔ fold ci v <:+: fold ci s) :=
  ⟨rfl, rfl, rfl, by simp only [eval, Except.ok.injEq, PyVal.isInfix_iff]⟩

/-- case-sensitive forms are equality / prefix / suffix / infix on the code-point lists -/
theorem string_rules_cs (v s : List Char) (q : Option Inquiry) :
    eval (.strEqual v false) (.str s) q = .ok (s == v) ∧
    eval (.startsWith v false) (.str s) q = .ok (v.isPrefixOf s) ∧
    eval (.endsWith v false) (.str s) q = .ok (v.isSuffixOf s) ∧
    (eval (.contains v false) (.str s) q = .ok true ↔ v <:+: s) :=
  string_rules_fold v s false q

/-- case-insensitive forms are the same predicates on the lower-cased operands -/
theorem string_rules_ci (v s : List Char) (q : Option Inquiry) :
    eval (.strEqual v true) (.str s) q = .ok (CharTable.lower s == CharTable.lower v) ∧
    eval (.startsWith v true) (.str s) q = .ok ((CharTable.lower v).isPrefixOf (CharTable.lower s)) ∧
    eval (.endsWith v true) (.str s) q = .ok ((CharTable.lower v).isSuffixOf (CharTable.lower s)) ∧
    (eval (.contains v true) (.str s) q = .ok true ↔ CharTable.lower v <:+: CharTable.lower s) :=
  string_rules_fold v s true q

/-- the network rule is CIDR containment: the value parses as an address, the rule's argument as a strict network of the same
IP version (`parseNet`: IPv4 with a decimal prefix, netmask or hostmask; IPv6 with a decimal prefix), and the address agrees
with the network on the prefix bits -/
theorem cidr_contains_iff (n a : List Char) (q : Option Inquiry) :
    eval (.cidr (.str n)) (.str a) q = .ok true ↔
      ∃ v ip net p, Cidr.parseAddr a = some (v, ip) ∧ Cidr.parseNet n = .ok v net p ∧
        ip / 2 ^ (Cidr.maxPrefix v - p) = net / 2 ^ (Cidr.maxPrefix v - p) := by
  simp only [eval, evalCidr]
  cases h1 : Cidr.parseAddr a with
  | none => simp
  | some av =>
    obtain ⟨av, ip⟩ := av
    cases h2 : Cidr.parseNet n with
    | ok nv net p =>
      simp only [Cidr.contains, Cidr.hostSize, Except.ok.injEq, Bool.and_eq_true, beq_iff_eq, Option.some.injEq,
        Prod.mk.injEq, Cidr.NetRes.ok.injEq]
      constructor
      · rintro ⟨rfl, h⟩; exact ⟨nv, ip, net, p, ⟨rfl, rfl⟩, ⟨rfl, rfl, rfl⟩, h⟩
      · rintro ⟨v, ip', net', p', ⟨rfl, rfl⟩, ⟨rfl, rfl, rfl⟩, h⟩; exact ⟨rfl, h⟩
    | invalid => simp
    | unmodelled => simp

/-- an address of one IP version is never inside a network of the other -/
theorem cidr_version_mismatch (nv net p av ip : Nat) (h : nv ≠ av) : Cidr.contains nv net p av ip = false := by
  simp [Cidr.contains, h]

/-- inquiry-matching rules compare with the current inquiry's own field -/
theorem inq_match_field (f : InqField) (w : PyVal) (q : Inquiry) :
    eval (.inqMatch f Option.none) w (some q) = .ok (pyEq w (q.field f)) := rfl

/-- … or with one attribute of it; a missing attribute or a non-dictionary field never matches -/
theorem inq_match_attr (f : InqField) (k : List Char) (w : PyVal) (q : Inquiry) :
    eval (.inqMatch f (some (.str k))) w (some q) =
      .ok (match q.field f with
           | .dict d => (match lookup k d with | some v => pyEq w v | Option.none => false)
           | _ => false) := by
  simp only [eval, evalInqMatch]
  cases q.field f with
  | dict d => dsimp only; cases lookup k d <;> rfl
  | _ => rfl

/-- without an inquiry every inquiry rule is unsatisfied -/
theorem inq_none (f : InqField) (a : Option PyVal) (w : PyVal) :
    eval (.inqMatch f a) w Option.none = .ok false ∧ eval .subjectEqual w Option.none = .ok false ∧
    eval .actionEqual w Option.none = .ok false ∧ eval .resourceIn w Option.none = .ok false :=
  ⟨rfl, rfl, rfl, rfl⟩

/-! ### Non-vacuity -/
example : eval (.and [.greater (.int 3), .less (.int 9)]) (.int 5) Option.none = .ok true := by decide
example : eval (.and [.greater (.int 3), .less (.str ['a'])]) (.int 5) Option.none = .error .raised := by decide
example : eval (.or [.eq (.int 5), .raising]) (.int 5) Option.none = .ok true := by decide
/-- AnyIn and AnyNotIn are *not* complements (both hold here) -/
example : eval (.anyIn [.int 1]) (.list [.int 1, .int 2]) Option.none = .ok true ∧
    eval (.anyNotIn [.int 1]) (.list [.int 1, .int 2]) Option.none = .ok true := by decide

end Vakt.C05
