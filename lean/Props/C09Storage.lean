import Proofs.StorageCodec
import Props.C09Codec
/-!
# C09 (continued) — what the storages write and read back

The round trip of the JSON text (`Props/C09Codec.lean`) carried through the storage-specific layers on top of it
(`Model/StorageCodec.lean`): Mongo documents (`_id`, compiled arrays, `update` as a `$set` onto the stored document)
and SQL rows (uid as text, effect as a Boolean).  An element the pattern compiler rejects makes the storage refuse the mutation.
-/
namespace Vakt.C09
open Vakt PyVal Serialize RuleCodec StorageCodec

/-- a stored document of the policy's `Shape` reads back as the policy, whatever type number and added keys it carries -/
theorem fromMongoDoc_of_shape {d : Doc} {p : Policy} {t : PyVal} {x : Doc} (hs : Shape d p t x)
    (hw : Policy.wf p = true) (n : Nat) (hn : Policy.depth p ≤ n) : fromMongoDoc n p.stag p.etag d = some p := by
  rw [fromMongoDoc, stripMongo_shape hs]
  exact policy_roundtrip p hw t n hn

theorem mongo_roundtrip (c : Compile) (p : Policy) (d : Doc) (h : mongoDoc c p = some d)
    (hw : Policy.wf p = true) (n : Nat) (hn : Policy.depth p ≤ n) :
    fromMongoDoc n p.stag p.etag d = some p := by
  obtain ⟨_, hs, _⟩ := mongoDoc_shape c p d h
  exact fromMongoDoc_of_shape hs hw n hn

/-- the stored `_id` is the uid of the policy -/
theorem mongo_id_is_uid (c : Compile) (p : Policy) (d : Doc) (h : mongoDoc c p = some d) :
    lookup kId d = some p.uid := by
  obtain ⟨_, hs, _⟩ := mongoDoc_shape c p d h
  rw [hs.lookup_added (by simp [addedKeys]), lookup_setKey, if_pos rfl]

/-- **Mongo update**: `$set` of the new policy's document onto the stored document of *any* earlier policy (of either type)
reads back as the new policy; a string-based policy replaced by a rule-based one keeps its stale `*_compiled_regex` arrays in
the document and they are ignored -/
theorem mongo_update_roundtrip (c : Compile) (p0 p : Policy) (d0 d : Doc)
    (h0 : mongoDoc c p0 = some d0) (h : mongoDoc c p = some d)
    (hw : Policy.wf p = true) (n : Nat) (hn : Policy.depth p ≤ n) :
    fromMongoDoc n p.stag p.etag (setAll d d0) = some p := by
  obtain ⟨_, hs0, _⟩ := mongoDoc_shape c p0 d0 h0
  obtain ⟨_, hs, _⟩ := mongoDoc_shape c p d h
  exact fromMongoDoc_of_shape (update_shape hs0 hs) hw n hn

/-- an element of a string-based policy that contains both tags and does not compile: nothing is written -/
theorem mongo_compile_failure (c : Compile) (p : Policy) (hp : strBased p = true) (s : List Char)
    (hs : Elem.str s ∈ p.actions) (ht : hasTags p s = true) (hc : c p.stag p.etag s = Option.none) :
    mongoDoc c p = Option.none := by
  have : mapOpt (compiledElem c p) p.actions = Option.none :=
    mapOpt_eq_none hs (by simp only [compiledElem, ht, ↓reduceIte, hc, Option.map_none])
  simp [mongoDoc, hp, this]

theorem deny_ne_allow : (Generated.denyConst == Generated.allowConst) = false := by decide +kernel

/-- **SQL round trip**: what `to_policy` rebuilds from the rows `_save` wrote -/
theorem sql_roundtrip (c : Compile) (p : Policy) (row : SqlRow) (h : toRow c p = some row)
    (hw : Policy.wf p = true) (n : Nat) (hn : Policy.depth p ≤ n) :
    ∃ u, storedUid p.uid = some u ∧ toPolicy n p.stag p.etag row = some (sqlNorm p u) := by
  simp only [Policy.wf, Bool.and_eq_true] at hw
  obtain ⟨⟨⟨⟨_, hs⟩, hr⟩, ha⟩, hcx⟩ := hw
  simp only [Policy.depth, Nat.max_le] at hn
  obtain ⟨⟨ds, dr⟩, ⟨da, dc⟩⟩ := hn
  have hp : strBased p = true → (p.subjects.all Elem.isStr = true ∧ p.resources.all Elem.isStr = true) ∧
      p.actions.all Elem.isStr = true := by simp only [strBased, Bool.and_eq_true, imp_self]
  obtain ⟨u, s, r, a, hu, hs', hr', ha', rfl⟩ := toRow_eq_some h
  refine ⟨u, hu, ?_⟩
  simp only [toPolicy, fromDb_toDb c p n _ _ (fun h => (hp h).1.1) hs ds hs',
    fromDb_toDb c p n _ _ (fun h => (hp h).1.2) hr dr hr', fromDb_toDb c p n _ _ (fun h => (hp h).2) ha da ha',
    decCtx, dec_enc_attrs _ hcx n dc, sqlNorm, Policy.allowAccess]
  rfl

/-- with a textual uid and one of the two effect constants the policy comes back exactly -/
theorem sql_roundtrip_exact (c : Compile) (p : Policy) (row : SqlRow) (h : toRow c p = some row)
    (hw : Policy.wf p = true) (n : Nat) (hn : Policy.depth p ≤ n)
    (hu : ∃ s, p.uid = .str s)
    (he : p.effect = .str Generated.allowConst ∨ p.effect = .str Generated.denyConst) :
    toPolicy n p.stag p.etag row = some p := by
  obtain ⟨u, hsu, ht⟩ := sql_roundtrip c p row h hw n hn
  obtain ⟨s, hs⟩ := hu
  rw [hs, storedUid] at hsu
  cases hsu
  rw [ht]
  obtain ⟨uid, eff, desc, subj, res, act, ctx, st, et⟩ := p
  simp only at hs he
  subst hs
  rcases he with rfl | rfl <;> simp [sqlNorm, Policy.allowAccess, pyEq_str, deny_ne_allow]

/-- whatever the uid and the effect are, what comes back has the same elements, context, description and tags and
the same `allow_access()`, hence decides every inquiry alike under checkers that do not look at the uid -/
theorem sql_meaning_preserved (c : Compile) (p : Policy) (row : SqlRow) (h : toRow c p = some row)
    (hw : Policy.wf p = true) (n : Nat) (hn : Policy.depth p ≤ n) :
    ∃ p', toPolicy n p.stag p.etag row = some p' ∧ p'.subjects = p.subjects ∧ p'.resources = p.resources ∧
      p'.actions = p.actions ∧ p'.context = p.context ∧ p'.description = p.description ∧
      p'.allowAccess = p.allowAccess := by
  obtain ⟨u, _, ht⟩ := sql_roundtrip c p row h hw n hn
  refine ⟨_, ht, rfl, rfl, rfl, rfl, rfl, ?_⟩
  cases hx : p.allowAccess <;> simp only [Policy.allowAccess] at hx <;>
    simp [sqlNorm, Policy.allowAccess, hx, pyEq_str, deny_ne_allow]

/-- the recorded finding `uid-type:sqlite`, as a theorem about the model: an integer uid comes back as its
decimal text -/
theorem sql_int_uid_comes_back_as_text (c : Compile) (p : Policy) (row : SqlRow) (k : Int) (hk : p.uid = .int k)
    (h : toRow c p = some row) : row.uid = .str (toString k).toList := by
  obtain ⟨u, _, _, _, hu, -, -, -, rfl⟩ := toRow_eq_some h
  rw [hk, storedUid] at hu
  cases hu; rfl

theorem sql_compile_failure (c : Compile) (p : Policy) (hp : strBased p = true) (s : List Char)
    (hs : Elem.str s ∈ p.subjects) (ht : hasTags p s = true) (hc : c p.stag p.etag s = Option.none) :
    toRow c p = Option.none := by
  have : mapOpt (elemToDb c p) p.subjects = Option.none :=
    mapOpt_eq_none hs (by simp only [elemToDb, hp, ht, ↓reduceIte, hc, Option.map_none])
  rw [toRow, this]
  cases storedUid p.uid <;> rfl

-- a string-based policy with a tagged element replaced by a rule-based one
example :
    let comp : Compile := fun _ _ s => some ('^' :: s ++ ['$'])
    let p0 : Policy := { uid := .str "u".toList, effect := .str Generated.allowConst, description := .none,
                         subjects := [.str "<a.*>".toList], resources := [.str "r".toList], actions := [.str "get".toList],
                         context := [], stag := '<', etag := '>' }
    let p1 : Policy := { p0 with subjects := [.rule (.eq (.int 1))], resources := [.rule .any], actions := [.rule .truthy],
                                 effect := .str Generated.denyConst }
    (match mongoDoc comp p0, mongoDoc comp p1 with
     | some d0, some d1 =>
       d0.length == 12 && d1.length == 9 && (setAll d1 d0).length == 12 &&
       ((fromMongoDoc 3 '<' '>' (setAll d1 d0)).map (fun q => q.subjects.length) == some 1) &&
       ((fromMongoDoc 3 '<' '>' (setAll d1 d0)).map (fun q => strBased q) == some false)
     | _, _ => false) = true ∧
    ((toRow comp p0).map (fun r => r.subjects.map (fun e => e.regex.isSome)) == some [true]) = true := by
  decide +kernel

end Vakt.C09
