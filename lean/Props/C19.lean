import Model.MongoMig
import Proofs.Lits
import Proofs.Lookup
/-!
# C19 — Mongo data migrations preserve policy meaning and are reversible

`_each_doc` (`MongoMig.eachDoc`) drops no document and leaves one whose processor raised as it was, reported.  Migration 3 renames
rule classes by a table regenerated from the source; `down` refuses every class of this tree the 1.1.1 layout did not have and no
custom class.  The tables are read as character lists through `Chars` (`Proofs/Lits.lean`) before the kernel evaluates over them.
-/
namespace Vakt.C19
open Vakt PyVal Vakt.Serialize Vakt.MongoMig

/-- no document is ever dropped, whatever the processor does -/
theorem never_dropped (proc : MDoc → Except MErr MDoc) (docs : List MDoc) :
    (eachDoc proc docs).1.length = docs.length := by
  induction docs with
  | nil => rfl
  | cons d rest ih =>
    simp only [eachDoc]
    split <;> simp [ih]

/-- the collection after a migration step, document by document: converted, or — when the processor
raised (irreversible or anything else) — exactly as it was; and every such document is reported -/
theorem irreversible_untouched_reported (proc : MDoc → Except MErr MDoc) (docs : List MDoc) :
    (eachDoc proc docs).1 = docs.map (fun d => match proc d with | .ok d' => d' | .error _ => d) ∧
    (eachDoc proc docs).2 = docs.filter (fun d => match proc d with | .ok _ => false | .error _ => true) := by
  induction docs with
  | nil => exact ⟨rfl, rfl⟩
  | cons d rest ih =>
    simp only [eachDoc, List.map_cons, List.filter_cons]
    cases proc d <;> simp [ih.1, ih.2]

def oldChars : { ls // Chars (Generated.rulesRename.map Prod.fst) ls } := ⟨_, by (repeat apply Chars.cons); exact .nil⟩
def newChars : { ls // Chars (Generated.rulesRename.map Prod.snd) ls } := ⟨_, by (repeat apply Chars.cons); exact .nil⟩
def m3Chars : { ls // Chars (Generated.m3DownRefuses.map Prod.fst) ls } := ⟨_, by (repeat apply Chars.cons); exact .nil⟩

def renameTable : List (List Char × List Char) := oldChars.1.zip newChars.1

theorem renameOldNew_eq : renameOldNew = renameTable := by
  rw [renameTable, ← oldChars.2.map_toList, ← newChars.2.map_toList, List.map_map, List.map_map, List.zip_map']; rfl

def m3Table : List (List Char × Bool) := m3Chars.1.zip (Generated.m3DownRefuses.map Prod.snd)

theorem m3Table_eq : Generated.m3DownRefuses.map (fun p => (p.1.toList, p.2)) = m3Table := by
  rw [m3Table, ← m3Chars.2.map_toList, List.map_map, List.zip_map']; rfl

/-- `m3Refuses` over a table that is a parameter -/
def refusesIn (tbl : List (List Char × Bool)) (t : List Char) : Bool :=
  match tbl.find? (fun q => q.1 == t) with
  | some q => q.2
  | Option.none => startsWith "vakt.rules.list".toList t || startsWith "vakt.rules.logic".toList t ||
            startsWith "vakt.rules.operator".toList t

theorem m3Refuses_eq (t : List Char) : m3Refuses t = refusesIn m3Table t := by
  rw [← m3Table_eq, refusesIn, List.find?_map, m3Refuses]
  simp only [Function.comp_def]
  cases Generated.m3DownRefuses.find? (fun p => p.1.toList == t) <;> rfl

theorem find?_key {γ α : Type} [BEq α] [LawfulBEq α] (key : γ → α) {l : List γ} (hn : (l.map key).Nodup) {p : γ}
    (hp : p ∈ l) : l.find? (fun q => key q == key p) = some p := by
  induction l with
  | nil => cases hp
  | cons x l ih =>
    rw [List.map_cons, List.nodup_cons] at hn
    rcases List.mem_cons.1 hp with rfl | hp
    · rw [List.find?_cons_of_pos (by simp)]
    · have hne : key x ≠ key p := fun e => hn.1 (e ▸ List.mem_map_of_mem hp)
      rw [List.find?_cons_of_neg (by simpa using hne), ih hn.2 hp]

theorem old_nodup : (renameOldNew.map Prod.fst).Nodup := by rw [renameOldNew_eq]; decide +kernel
theorem new_nodup : (renameOldNew.map Prod.snd).Nodup := by rw [renameOldNew_eq]; decide +kernel

theorem renameUp_old {p : List Char × List Char} (hp : p ∈ renameOldNew) : renameUp p.1 = p.2 := by
  rw [renameUp, find?_key Prod.fst old_nodup hp]

theorem renameDown_new {p : List Char × List Char} (hp : p ∈ renameOldNew) : renameDown p.2 = p.1 := by
  rw [renameDown, find?_key Prod.snd new_nodup hp]

/-- old and new names are each pairwise distinct and disjoint: renaming up and then down is the identity on legacy
names, and migration 3 `down` refuses none of the new names -/
theorem rename_table_ok :
    (renameOldNew.map Prod.fst).Nodup ∧ (renameOldNew.map Prod.snd).Nodup ∧
    (∀ o ∈ renameOldNew.map Prod.fst, o ∉ renameOldNew.map Prod.snd) ∧
    (∀ p ∈ renameOldNew, renameDown (renameUp p.1) = p.1 ∧ renameUp p.1 = p.2) ∧
    (∀ p ∈ renameOldNew, m3Refuses p.2 = false) := by
  refine ⟨old_nodup, new_nodup, ?_, fun p hp => ⟨by rw [renameUp_old hp, renameDown_new hp], renameUp_old hp⟩, ?_⟩
  · rw [renameOldNew_eq]; decide +kernel
  · simp only [m3Refuses_eq]; rw [renameOldNew_eq]; decide +kernel

theorem renameUp_other (c : List Char) (h : c ∉ renameOldNew.map Prod.fst) : renameUp c = c := by
  rw [renameUp, List.find?_eq_none.2 fun p hp e => h (List.mem_map.2 ⟨p, hp, eq_of_beq e⟩)]

theorem renameDown_other (c : List Char) (h : c ∉ renameOldNew.map Prod.snd) : renameDown c = c := by
  rw [renameDown, List.find?_eq_none.2 fun p hp e => h (List.mem_map.2 ⟨p, hp, eq_of_beq e⟩)]

/-- every rule class of this tree that did not exist in the 1.1.1 layout — i.e. is neither a legacy
name nor the new name of a legacy class — is refused by migration 3 `down`, so a policy using it
is left untouched and reported rather than silently rewritten into a layout that cannot hold it -/
theorem m3_irreversible_complete :
    ∀ p ∈ Generated.m3DownRefuses,
      (startsWith "vakt.rules.".toList p.1.toList = true ∧ p.1.toList ∉ renameOldNew.map Prod.fst ∧
        p.1.toList ∉ renameOldNew.map Prod.snd) → p.2 = true := by
  -- the flag first: `decide` then compares class paths only for the entries that are not refused
  have tbl : ∀ q ∈ m3Table, q.2 = true ∨ ¬ (startsWith "vakt.rules.".toList q.1 = true ∧ q.1 ∉ renameTable.map Prod.fst ∧
      q.1 ∉ renameTable.map Prod.snd) := by decide +kernel
  rw [← renameOldNew_eq, ← m3Table_eq] at tbl
  exact fun p hp h => (tbl _ (List.mem_map_of_mem hp)).resolve_right fun hn => hn h

/-- a custom (non-vakt) class path is not refused -/
theorem m3_custom_kept : m3Refuses "myapp.rules.Custom".toList = false := by
  rw [m3Refuses_eq]; decide +kernel

/-! ### writing a value under a key wherever the key occurs (what both directions of migration 3 do to the class tag) -/

theorem lookup_overwrite (k : List Char) (v : PyVal) (r : MDoc) :
    lookup k (r.map fun kv => if kv.1 == k then (k, v) else kv) = (lookup k r).map fun _ => v := by
  induction r with
  | nil => rfl
  | cons x r ih =>
    obtain ⟨k', w⟩ := x
    by_cases hk : k' = k
    · subst hk; simp only [List.map_cons, beq_self_eq_true, ↓reduceIte, lookup_cons_self, Option.map_some]
    · have hk' : k ≠ k' := fun e => hk e.symm
      rw [List.map_cons, if_neg (by simpa using hk), lookup_cons_ne hk', lookup_cons_ne hk', ih]

theorem overwrite_overwrite (k : List Char) (v w : PyVal) (r : MDoc) :
    (r.map fun kv => if kv.1 == k then (k, v) else kv).map (fun kv => if kv.1 == k then (k, w) else kv) =
      r.map fun kv => if kv.1 == k then (k, w) else kv := by
  rw [List.map_map]
  refine List.map_congr_left fun kv _ => ?_
  by_cases hk : kv.1 = k <;> simp only [Function.comp, beq_iff_eq, hk, ↓reduceIte, beq_self_eq_true]

theorem overwrite_same {k : List Char} {v : PyVal} {r : MDoc} (h : ∀ kv ∈ r, kv.1 = k → kv.2 = v) :
    (r.map fun kv => if kv.1 == k then (k, v) else kv) = r := by
  refine (List.map_congr_left fun kv hkv => ?_).trans (List.map_id r)
  by_cases hk : kv.1 = k
  · simp only [beq_iff_eq, hk, ↓reduceIte, id]; rw [← h kv hkv hk, ← hk]
  · simp only [beq_iff_eq, hk, ↓reduceIte, id]

/-- one rule through migration 3 up and down again comes back as it was (legacy or custom class) -/
theorem m3_rule_roundtrip (r : MDoc) (t : List Char) (hl : lookup objTag r = some (.str t))
    (hu : ∀ kv ∈ r, kv.1 = objTag → kv.2 = .str t)
    (hleg : t ∈ renameOldNew.map Prod.fst ∨ (t ∉ renameOldNew.map Prod.fst ∧ t ∉ renameOldNew.map Prod.snd ∧ m3Refuses t = false)) :
    (m3upRule (.dict r)).bind m3downRule = .ok (.dict r) := by
  simp only [m3upRule, hl, Except.bind, m3downRule, lookup_overwrite, Option.map_some]
  obtain ⟨hnr, hback⟩ : m3Refuses (renameUp t) = false ∧ renameDown (renameUp t) = t := by
    rcases hleg with h | ⟨h1, h2, h3⟩
    · obtain ⟨p, hp, rfl⟩ := List.mem_map.1 h
      rw [renameUp_old hp, renameDown_new hp]
      exact ⟨rename_table_ok.2.2.2.2 p hp, rfl⟩
    · rw [renameUp_other t h1, renameDown_other t h2]
      exact ⟨h3, rfl⟩
  simp only [hnr, Bool.false_eq_true, ↓reduceIte, hback]
  rw [overwrite_overwrite, overwrite_same hu]

/-- migration 4 `down` removes the compiled-pattern fields and nothing else, and is idempotent -/
theorem m4down_spec (d : MDoc) :
    (∃ d', m4down d = .ok d' ∧ (∀ kv ∈ d', kv ∈ d) ∧
      (∀ kv ∈ d, !(compiledFields.map String.toList).contains kv.1 → kv ∈ d') ∧
      (∀ kv ∈ d', (compiledFields.map String.toList).contains kv.1 = false) ∧ m4down d' = .ok d') := by
  refine ⟨_, rfl, ?_, ?_, ?_, ?_⟩
  · intro kv h; exact (List.mem_filter.1 h).1
  · intro kv h hn; exact List.mem_filter.2 ⟨h, hn⟩
  · intro kv h; simpa using (List.mem_filter.1 h).2
  · simp [m4down, List.filter_filter]

theorem dictUpdate_fresh (c base : MDoc) (h : ∀ kv ∈ c, lookup kv.1 base = Option.none)
    (hnd : (c.map Prod.fst).Nodup) : dictUpdate base c = base ++ c := by
  induction c generalizing base with
  | nil => exact (List.append_nil base).symm
  | cons kv rest ih =>
    obtain ⟨k, v⟩ := kv
    obtain ⟨hk, hrest⟩ := List.forall_mem_cons.1 h
    rw [List.map_cons, List.nodup_cons] at hnd
    rw [dictUpdate, hk, Option.isSome_none, if_neg Bool.false_ne_true, ih _ ?_ hnd.2, List.append_assoc]
    · rfl
    · intro kv' hkv'
      have : kv'.1 ≠ k := fun e => hnd.1 (e ▸ (List.mem_map_of_mem hkv' : kv'.1 ∈ rest.map Prod.fst))
      rw [lookup_append, hrest kv' hkv', lookup_cons_ne this]; rfl

theorem kContents_ne_kType : kContents ≠ kType := toList_ne (by simp)

/-- one 1.1.0 rule through migration 2 up and down again comes back as it was -/
theorem m2_rule_roundtrip (t : List Char) (c : MDoc) (hnk : ∀ kv ∈ c, kv.1 ≠ objTag)
    (hnd : (c.map Prod.fst).Nodup)
    (hok : (startsWith "vakt.rules.".toList t = true ∧ (t == "vakt.rules.string.RegexMatchRule".toList) = false) ∨
           (startsWith "vakt.rules.".toList t = false ∧ c.any (fun kv => hasReserved kv.2) = false)) :
    (m2upRule (.tuple [.dict [(kType, .str t), (kContents, .dict c)]])).bind m2downRule =
      .ok (.tuple [.dict [(kType, .str t), (kContents, .dict c)]]) := by
  have hup : dictUpdate [(objTag, PyVal.str t)] c = (objTag, PyVal.str t) :: c :=
    dictUpdate_fresh c _ (fun kv hkv => lookup_cons_ne (hnk kv hkv)) hnd
  have hfilter : ((objTag, PyVal.str t) :: c).filter (fun kv => kv.1 != objTag) = c := by
    rw [List.filter_cons_of_neg (by simp), List.filter_eq_self]
    exact fun kv hkv => bne_iff_ne.2 (hnk kv hkv)
  simp only [m2upRule, lookup_cons_self, lookup_cons_ne kContents_ne_kType, hup, Except.bind, m2downRule, hfilter]
  rcases hok with ⟨h1, h2⟩ | ⟨h1, h2⟩
  · simp only [h1, Bool.not_true, Bool.false_eq_true, ↓reduceIte, h2]
  · simp only [h1, Bool.not_false, ↓reduceIte, h2, Bool.false_eq_true]

/-- the probes of /repo behind `Generated.rulesRename` (`"mongo"`) and `Generated.m3DownRefuses` ran: one that cannot be
run leaves its tables empty and its name in `Generated.probeFailures` (`harness/extract.py`) -/
theorem probes_ok : ¬ ("mongo" ∈ Generated.probeFailures) ∧ ¬ ("mongoMigration3" ∈ Generated.probeFailures) := by decide

end Vakt.C19
