import Model.Guard
import Proofs.Guard
/-!
# C02 — fail-closed totality of decisions

`isAllowed m ans` is `Guard.is_allowed_check` for a storage answer `ans` (raises / `None` / an iterable that
may raise before item `n`); `.error` results of `m` are the raises of checkers, patterns and context rules.
Totality and "strict boolean" are its type `Bool` here; for the code the correspondence run decides them.
-/
namespace Vakt.C02
open Vakt PyVal

/-- every storage-side fault denies: the call raises, returns `None`, or the iteration raises at any position
(`n = xs.length`: after the last item) -/
theorem fault_denies (m : Policy → R) (xs : List Policy) (n : Nat) (hn : n ≤ xs.length) :
    isAllowed m .raises = false ∧ isAllowed m .nothing = false ∧
    isAllowed m (.items xs (some n)) = false := by
  refine ⟨rfl, rfl, Bool.eq_false_iff.2 fun h => ?_⟩
  -- an allow answer needs the fault position beyond the last item
  obtain ⟨hfa, _⟩ := (isAllowed_items m xs _).1 h
  exact Nat.not_lt.2 hn (hfa n rfl)

/-- a raise while evaluating any yielded policy (checker, pattern, context rule) denies -/
theorem policy_raise_denies (m : Policy → R) (xs : List Policy) (fa : Option Nat) (p : Policy)
    (hp : p ∈ xs) (e : PyErr) (he : m p = .error e) : isAllowed m (.items xs fa) = false :=
  Bool.eq_false_iff.2 fun h => by
    obtain ⟨_, hd⟩ := (isAllowed_items m xs fa).1 h
    exact Bool.false_ne_true ((Vakt.decide_raise m xs p hp e he).symm.trans hd)

/-- allow only when the storage answered without fault, nothing raised and some allow policy matched -/
theorem allow_sound (m : Policy → R) (ans : StoreAns) (h : isAllowed m ans = true) :
    ∃ xs fa, ans = .items xs fa ∧ (∀ n, fa = some n → xs.length < n) ∧ NoRaise m xs ∧
      ∃ p ∈ xs, m p = .ok true ∧ p.allowAccess = true := by
  cases ans with
  | raises => cases h
  | nothing => cases h
  | items xs fa =>
    obtain ⟨hfa, hd⟩ := (isAllowed_items m xs fa).1 h
    obtain ⟨hr, ⟨p, hp, hm⟩, hall⟩ := (decide_eq_true_iff m xs).1 hd
    exact ⟨xs, fa, rfl, hfa, hr, p, hp, hm, hall p hp hm⟩

/-- injecting raises at any set of evaluation boundaries can only move the answer towards deny -/
theorem fault_monotone (m m' : Policy → R) (ans : StoreAns)
    (hm : ∀ p, m' p = m p ∨ ∃ e, m' p = .error e) (h : isAllowed m' ans = true) :
    isAllowed m ans = true := by
  obtain ⟨xs, fa, rfl, -⟩ := allow_sound m' ans h
  rw [isAllowed_items, decide_eq_true_iff] at h ⊢
  obtain ⟨hfa, hr', ⟨p, hp, hmp⟩, hall⟩ := h
  -- where nothing raised under `m'`, it is `m`
  have heq : ∀ x ∈ xs, m' x = m x := fun x hx =>
    (hm x).resolve_right fun ⟨e, he⟩ => by obtain ⟨b, hb⟩ := hr' x hx; cases he.symm.trans hb
  exact ⟨hfa, fun x hx => heq x hx ▸ hr' x hx, ⟨p, hp, heq p hp ▸ hmp⟩,
    fun x hx hmx => hall x hx ((heq x hx).trans hmx)⟩

/-- a raising context rule is *not* swallowed: it makes the policy's evaluation raise -/
theorem ctx_rule_raise_propagates (q : Inquiry) (d : List (List Char × PyVal)) (k : List Char) (r : Rule)
    (v : PyVal) (rest : List (List Char × AttrVal)) (e : PyErr)
    (hq : q.context = .dict d) (hl : lookup k d = some v) (he : r.eval v (some q) = .error e) :
    ctxLoop q ((k, .rule r) :: rest) = .error e := by
  simp [ctxLoop, hq, hl, he]

/-- a context entry that is not a rule raises (no `satisfied`) -/
theorem ctx_junk_raises (q : Inquiry) (d : List (List Char × PyVal)) (k : List Char) (v : PyVal)
    (rest : List (List Char × AttrVal)) (hq : q.context = .dict d) (hl : lookup k d = some v) :
    ctxLoop q ((k, .junk) :: rest) = .error .raised := by
  simp [ctxLoop, hq, hl]

/-- a context that is not a dictionary raises as soon as a policy has a context restriction -/
theorem ctx_nondict_raises (q : Inquiry) (kv : List Char × AttrVal) (rest : List (List Char × AttrVal))
    (hq : isDict q.context = false) : ctxLoop q (kv :: rest) = .error .raised := by
  obtain ⟨k, a⟩ := kv
  rw [ctxLoop]
  cases hc : q.context with
  | dict d => rw [hc] at hq; cases hq
  | _ => rfl

/-! ### Non-vacuity -/
private def pol (eff : String) (ctx : List (List Char × AttrVal)) : Policy :=
  { uid := .int 1, effect := .str eff.toList, description := .none, subjects := [.str "s".toList],
    resources := [.str "r".toList], actions := [.str "a".toList], context := ctx, stag := '<', etag := '>' }
private def inq : Inquiry :=
  { resource := .str "r".toList, action := .str "a".toList, subject := .str "s".toList,
    context := .dict [("k".toList, .str "x".toList)] }
example : isAllowed (guardMatch .exact inq) (.items [pol "allow" []] Option.none) = true := by decide
example : isAllowed (guardMatch .exact inq) (.items [pol "allow" [], pol "allow" [("k".toList, .rule (.greater (.int 5)))]] Option.none) = false := by decide
example : isAllowed (guardMatch .exact inq) (.items [pol "allow" []] (some 1)) = false := by decide

end Vakt.C02
