import Proofs.Checker
/-!
# C04 — rules checker: OR over elements, AND over attributes, errors never match

`ElemOk` / `AttrOk` say when an element / an entry of an attribute dictionary matches the inquiry value, in terms of
`Rule.eval` alone; `rules_field_iff` is `RulesChecker.fits` against them.
-/
namespace Vakt.C04
open Vakt PyVal

/-- one attribute entry is satisfied: the value is a dictionary holding the key, the entry is a
rule, and the rule is satisfied (without raising) by the corresponding value -/
def AttrOk (what : PyVal) (q : Option Inquiry) (kv : List Char × AttrVal) : Prop :=
  ∃ d r w, what = .dict d ∧ kv.2 = .rule r ∧ lookup kv.1 d = some w ∧ r.eval w q = .ok true

/-- the element matches the inquiry value -/
def ElemOk (what : PyVal) (q : Option Inquiry) : Elem → Prop
  | .rule r => r.eval what q = .ok true
  | .attrs kvs => kvs ≠ [] ∧ ∀ kv ∈ kvs, AttrOk what q kv
  | .str _ => False

theorem attrStep_iff (what : PyVal) (q : Option Inquiry) (k : List Char) (a : AttrVal) :
    attrStep what q k a = true ↔ AttrOk what q (k, a) := by
  constructor
  · intro h
    unfold attrStep at h
    split at h
    · split at h
      · obtain ⟨r, ha, hr⟩ := (checkSatisfied_iff ..).1 h
        exact ⟨_, r, _, rfl, ha, ‹_›, hr⟩
      · cases h
    · cases h
  · rintro ⟨d, r, w, rfl, ha, hl, hr⟩
    simp only [attrStep, hl]
    exact (checkSatisfied_iff ..).2 ⟨r, ha, hr⟩

/-- an attribute dictionary: every listed attribute must be present and satisfied; `acc` is `item_result`, `False` before the
loop, so `{}` never matches -/
theorem attrs_ok_iff (what : PyVal) (q : Option Inquiry) (kvs : List (List Char × AttrVal)) (acc : Bool) :
    attrsLoop what q kvs acc = true ↔
      (kvs = [] ∧ acc = true) ∨ (kvs ≠ [] ∧ ∀ kv ∈ kvs, AttrOk what q kv) := by
  cases kvs with
  | nil => simp [attrsLoop]
  | cons kv rest => simp [attrsLoop_cons, attrStep_iff]

theorem rulesElem_iff (what : PyVal) (q : Option Inquiry) (e : Elem) :
    rulesElem what q e = true ↔ ElemOk what q e := by
  cases e with
  | str s => simp [rulesElem, ElemOk]
  | rule r => simp [rulesElem, ElemOk, checkSatisfied_iff]
  | attrs kvs => simp [rulesElem, ElemOk, attrs_ok_iff]

/-- the field matches iff at least one of its elements matches -/
theorem rules_field_iff (p : Policy) (f : Field) (what : PyVal) (q : Option Inquiry) :
    rulesFits p f what q = .ok true ↔ ∃ e ∈ p.field f, ElemOk what q e := by
  simp only [rulesFits, Except.ok.injEq, rulesLoop_eq_any, List.any_eq_true, rulesElem_iff]

/-- never an error, whatever raises inside -/
theorem rules_total (p : Policy) (f : Field) (what : PyVal) (q : Option Inquiry) :
    ∃ b, rulesFits p f what q = .ok b := ⟨_, rfl⟩

/-- the position of the matching element in the field is irrelevant -/
theorem rules_pos_irrelevant (p p' : Policy) (f : Field) (what : PyVal) (q : Option Inquiry)
    (hperm : (p.field f).Perm (p'.field f)) : rulesFits p f what q = rulesFits p' f what q := by
  simp only [rulesFits, rulesLoop_eq_any, hperm.any_eq]

/-- the property's list: `{}`, a missing attribute, a non-dictionary value, a non-rule entry, a raising rule; a string -/
theorem never_match_cases (what : PyVal) (q : Option Inquiry) :
    ¬ ElemOk what q (.attrs []) ∧
    (∀ k a rest d, what = .dict d → lookup k d = Option.none → ¬ ElemOk what q (.attrs ((k, a) :: rest))) ∧
    (∀ kvs, isDict what = false → ¬ ElemOk what q (.attrs kvs)) ∧
    (∀ k rest, ¬ ElemOk what q (.attrs ((k, .junk) :: rest))) ∧
    (∀ r e, r.eval what q = .error e → ¬ ElemOk what q (.rule r)) ∧
    (∀ s, ¬ ElemOk what q (.str s)) := by
  refine ⟨by simp [ElemOk], ?_, ?_, ?_, ?_, by simp [ElemOk]⟩
  · rintro k a rest d rfl hl ⟨_, h⟩
    obtain ⟨_, _, w, hd, _, hlw, _⟩ := h (k, a) (List.mem_cons_self ..)
    cases hd
    cases hl.symm.trans hlw
  · intro kvs hnd h
    cases kvs with
    | nil => exact h.1 rfl
    | cons kv rest =>
      obtain ⟨d, _, _, hd, _⟩ := h.2 kv (by simp)
      rw [hd] at hnd; simp [isDict] at hnd
  · intro k rest h
    obtain ⟨_, r, _, _, ha, _⟩ := h.2 (k, .junk) (by simp)
    cases ha
  · exact fun r e he h => nomatch he.symm.trans h

/-! ### Non-vacuity -/
example : rulesFits { (default : Policy) with subjects :=
      [.attrs [("name".toList, .rule (.eq (.str "Max".toList))), ("age".toList, .rule (.greater (.int 17)))]] }
    .subjects (.dict [("age".toList, .int 30), ("name".toList, .str "Max".toList)]) Option.none = .ok true := by decide
example : rulesFits { (default : Policy) with subjects := [.attrs [], .rule .raising, .rule (.less (.str ['a']))] }
    .subjects (.int 3) Option.none = .ok false := by decide

end Vakt.C04
