import Model.Enfold
import Proofs.Store
/-!
# C12 — the enfolding storage cache stays coherent with its backend

`Coherent`: cache store and backend are maps with the same bindings.  In a coherent state the cache store repeats the backend's
step when it returned, and nothing moves when it raised; the reads follow from `Coherent` alone; `populate` (`feed`) copies the
backend into an empty cache and is a no-op in a coherent state.
-/
namespace Vakt.C12
open Vakt.Store Vakt.Enfold

theorem coherent_lookup_iff {s : EState} (h : Coherent s) (u : Uid) :
    lookup u s.cache = lookup u s.backend := h.2.2 u

/-- feeding bindings whose uids are new to the cache appends them all -/
theorem feed_fresh : ∀ (l c : St), Distinct (c ++ l) → feed c l = (c ++ l, .done) := by
  intro l
  induction l with
  | nil => intro c _; simp [feed]
  | cons x rest ih =>
    intro c hd
    obtain ⟨u, p⟩ := x
    have hnone : lookup u c = none := by
      rw [lookup_none_iff]
      rw [distinct_iff_nodup, keys, List.map_append, List.nodup_append] at hd
      exact fun hm => hd.2.2 u hm u (List.mem_map.2 ⟨(u, p), List.mem_cons_self, rfl⟩) rfl
    simp only [feed, step_add_absent _ _ _ _ hnone]
    rw [List.append_cons c (u, p) rest] at hd ⊢
    exact ih _ hd

/-- feeding to a cache that already holds the first uid stops at once and leaves the cache as it was -/
theorem feed_existing (c : St) (u : Uid) (p p0 : Pol) (rest : St) (h : lookup u c = some p0) :
    feed c ((u, p) :: rest) = (c, .existsErr) := by
  simp only [feed, step_add_present _ _ _ _ h]

/-- feeding ends with the last policy stored or with the first uid the cache already holds -/
theorem feed_out (all : St) : ∀ c : St, (feed c all).2 = .done ∨ (feed c all).2 = .existsErr := by
  induction all with
  | nil => exact fun _ => .inl rfl
  | cons x rest ih =>
    intro c
    rw [feed]
    cases hc : lookup x.1 c with
    | some q => rw [step_add_present _ _ _ _ hc]; exact .inr rfl
    | none => rw [step_add_absent _ _ _ _ hc]; exact ih _

theorem add_coherent (cfg : Cfg) (s : EState) (u : Uid) (p : Pol) (ok : Bool) (h : Coherent s) :
    Coherent (Enfold.step cfg s (.add u p ok)).1 ∧
    (Enfold.step cfg s (.add u p ok)).2.1 = (Store.step cfg s.backend (.add u p ok)).2 := by
  obtain ⟨hc, hb, hl⟩ := h
  cases ok
  · exact ⟨⟨hc, hb, hl⟩, rfl⟩
  · cases hlb : lookup u s.backend with
    | some _ => rw [Enfold.step, step_add_present _ _ _ _ hlb]; exact ⟨⟨hc, hb, hl⟩, rfl⟩
    | none =>
      have hlc : lookup u s.cache = none := (hl u).trans hlb
      rw [Enfold.step, step_add_absent _ _ _ _ hlb, step_add_absent _ _ _ _ hlc]
      exact ⟨⟨distinct_snoc u p _ hc hlc, distinct_snoc u p _ hb hlb,
        fun u' => by rw [lookup_snoc p hlc, lookup_snoc p hlb, hl u']⟩, rfl⟩

theorem update_coherent (cfg : Cfg) (s : EState) (u : Uid) (p : Pol) (ok : Bool) (h : Coherent s) :
    Coherent (Enfold.step cfg s (.update u p ok)).1 ∧
    (Enfold.step cfg s (.update u p ok)).2.1 = (Store.step cfg s.backend (.update u p ok)).2 := by
  obtain ⟨hc, hb, hl⟩ := h
  cases ok
  · rw [Enfold.step, step_update_false, step_update_true]
    by_cases hn : (cfg.eagerConvert || (lookup u s.backend).isSome) = true
    · rw [if_pos hn]; exact ⟨⟨hc, hb, hl⟩, rfl⟩
    · -- the backend returned without having stored (uid absent): the cache's `replace` finds nothing either
      have hlc : lookup u s.cache = none := by
        rw [hl u]; cases hlb : lookup u s.backend with
        | none => rfl
        | some _ => simp [hlb] at hn
      rw [if_neg hn, replace_absent u p _ hlc]
      exact ⟨⟨hc, hb, hl⟩, rfl⟩
  · rw [Enfold.step, step_update_true, step_update_true]
    exact ⟨⟨distinct_replace u p _ hc, distinct_replace u p _ hb,
      fun u' => by rw [lookup_replace, lookup_replace, hl u', hl u]⟩, rfl⟩

/-- **coherence is invariant**: once cache and backend hold the same policies, every operation
issued through the enfolding cache keeps it so — backend failures included -/
theorem enfold_inv (cfg : Cfg) (s : EState) (op : EOp) (h : Coherent s) : Coherent (Enfold.step cfg s op).1 := by
  cases op with
  | add u p ok => exact (add_coherent cfg s u p ok h).1
  | update u p ok => exact (update_coherent cfg s u p ok h).1
  | delete u =>
    obtain ⟨hc, hb, hl⟩ := h
    exact ⟨distinct_erase u _ hc, distinct_erase u _ hb,
      fun u' => by simp only [Enfold.step, step_delete]; rw [lookup_erase u u' hc, lookup_erase u u' hb, hl u']⟩
  | get _ | getAll _ _ | retrieveAll _ => simp only [Enfold.step]; split <;> exact h
  | populate batch =>
    -- every binding the backend yields is already in the cache: the first `add` is refused, nothing changes
    obtain ⟨hc, hb, hl⟩ := h
    have key : (feed s.cache (retrieveAll (listing cfg s.backend) batch)).1 = s.cache := by
      cases hall : retrieveAll (listing cfg s.backend) batch with
      | nil => rfl
      | cons x rest =>
        have hm : x ∈ s.backend :=
          (listing_perm cfg s.backend).mem_iff.1 (mem_of_mem_retrieveAll (hall ▸ List.mem_cons_self))
        rw [feed_existing s.cache x.1 x.2 x.2 rest ((hl _).trans ((lookup_some_iff_mem _ _ _ hb).2 hm))]
    simp only [Enfold.step, key]
    exact ⟨hc, hb, hl⟩
  | fault => exact h

theorem history_coherent (cfg : Cfg) (ops : List EOp) : ∀ s, Coherent s → Coherent (Enfold.run cfg s ops).1 := by
  induction ops with
  | nil => intro s h; exact h
  | cons op rest ih => intro s h; exact ih _ (enfold_inv cfg s op h)

/-- lookup by uid through the cache returns what the backend alone would return -/
theorem get_eq_backend (cfg : Cfg) (s : EState) (u : Uid) (h : Coherent s) :
    (Enfold.step cfg s (.get u)).2.1 = .pol (lookup u s.backend) := by
  simp only [Enfold.step]
  cases hc : lookup u s.cache with
  | none => rfl
  | some p => simp only; rw [← h.2.2 u, hc]

/-- full retrieval through the cache yields the backend's policies, each exactly once -/
theorem retrieveAll_eq_backend (cfg : Cfg) (s : EState) (b : Nat) (hb : 0 < b) (h : Coherent s) :
    ∃ l, (Enfold.step cfg s (.retrieveAll b)).2.1 = .pols l ∧ l.Perm s.backend := by
  have hperm : s.cache.Perm s.backend := perm_of_same_lookup _ _ h.1 h.2.1 h.2.2
  -- the cache lists in insertion order; an empty cache hands the call to the backend
  simp only [Enfold.step, step_retrieveAll_nat, retrieveAll_eq _ b hb, show listing memCfg s.cache = s.cache from rfl]
  cases hcache : s.cache with
  | nil => exact ⟨_, rfl, listing_perm cfg s.backend⟩
  | cons x xs => exact ⟨_, rfl, hcache ▸ hperm⟩

/-- if a backend mutation fails the error is propagated and neither store changes -/
theorem failure_propagates_unchanged (cfg : Cfg) (s : EState) (op : EOp)
    (hfail : match op with
      | .add u p ok => (Store.step cfg s.backend (.add u p ok)).2 ≠ .done
      | .update u p ok => (Store.step cfg s.backend (.update u p ok)).2 ≠ .done
      | .fault => True
      | _ => False) :
    (Enfold.step cfg s op).1 = s ∧
    (Enfold.step cfg s op).2.1 = (match op with
      | .add u p ok => (Store.step cfg s.backend (.add u p ok)).2
      | .update u p ok => (Store.step cfg s.backend (.update u p ok)).2
      | .fault => .rejected
      | _ => .done) := by
  cases op with
  | add u p ok =>
    simp only at hfail ⊢
    -- `Enfold.step` hands on whatever the backend answered unless that is `done`
    rw [Enfold.step]
    rcases step_add_cases cfg s.backend u p ok with e | e | e <;> rw [e] at hfail ⊢
    · exact absurd rfl hfail
    · exact ⟨rfl, rfl⟩
    · exact ⟨rfl, rfl⟩
  | update u p ok =>
    simp only at hfail ⊢
    rw [Enfold.step]
    rcases step_update_cases cfg s.backend u p ok with ⟨b', e⟩ | e <;> rw [e] at hfail ⊢
    · exact absurd rfl hfail
    · exact ⟨rfl, rfl⟩
  | fault => exact ⟨rfl, rfl⟩
  | delete _ | get _ | getAll _ _ | retrieveAll _ | populate _ => exact hfail.elim

/-- the value returned by a mutation is the backend's -/
theorem mutation_returns_backend_value (cfg : Cfg) (s : EState) (u : Uid) (p : Pol) (ok : Bool) (h : Coherent s) :
    (Enfold.step cfg s (.add u p ok)).2.1 = (Store.step cfg s.backend (.add u p ok)).2 ∧
    (Enfold.step cfg s (.update u p ok)).2.1 = (Store.step cfg s.backend (.update u p ok)).2 :=
  ⟨(add_coherent cfg s u p ok h).2, (update_coherent cfg s u p ok h).2⟩

/-- reads that the populated cache can answer do not touch the backend -/
theorem populated_read_no_backend_touch (cfg : Cfg) (s : EState) (u : Uid) (p : Pol) (h : Coherent s)
    (hp : lookup u s.backend = some p) : (Enfold.step cfg s (.get u)).2.2 = false := by
  have : lookup u s.cache = some p := by rw [h.2.2 u, hp]
  simp [Enfold.step, this]

/-- population with any positive batch size, from an empty cache, establishes coherence -/
theorem populate_any_batch (cfg : Cfg) (backend : St) (b : Nat) (hb : 0 < b) (hd : Distinct backend) :
    Coherent (Enfold.step cfg ⟨[], backend⟩ (.populate b)).1 ∧ (Enfold.step cfg ⟨[], backend⟩ (.populate b)).2.1 = .done := by
  have hperm := listing_perm cfg backend
  have hdl : Distinct (listing cfg backend) := distinct_perm hperm.symm hd
  simp only [Enfold.step, retrieveAll_eq _ b hb, feed_fresh (listing cfg backend) [] hdl, List.nil_append]
  exact ⟨⟨hdl, hd, fun u => lookup_perm u hperm hdl⟩, trivial⟩

example : (Enfold.run ⟨true, false⟩ ⟨[], [("b".toList, 1), ("a".toList, 2)]⟩
    [.populate 1, .add "c".toList 3 true, .add "a".toList 4 true, .update "b".toList 5 false, .get "b".toList]).2 =
    [(.done, true), (.done, true), (.existsErr, true), (.rejected, true), (.pol (some 1), false)] := by decide

end Vakt.C12
