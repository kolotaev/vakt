import Proofs.Guard
import Proofs.Checker
/-!
# C06 — string checkers are exact / substring; checker and policy types never cross

`exactFits` / `fuzzyFits` are `StringExactChecker.fits` / `StringFuzzyChecker.fits`; `inner` is the text an element is
compared by.
-/
namespace Vakt.C06
open Vakt PyVal

/-- an element wholly enclosed in the tags is compared by its inner text: exactly one pair is
stripped, and only when both ends are tags -/
theorem inner_spec (stag etag : Char) :
    (∀ m : List Char, inner stag etag (stag :: (m ++ [etag])) = m) ∧
    inner stag etag [] = [] ∧
    (∀ s : List Char, (s.head? ≠ some stag ∨ s.getLast? ≠ some etag) → inner stag etag s = s) := by
  refine ⟨?_, rfl, ?_⟩
  · intro m
    have h : (stag :: (m ++ [etag])).getLast? = some etag := by
      rw [← List.cons_append, List.getLast?_append]; simp
    simp [inner, h]
  · intro s h
    cases s with
    | nil => rfl
    | cons a t =>
      rw [inner, if_neg]
      simp only [Bool.and_eq_true, beq_iff_eq, not_and]
      rintro rfl hl
      exact h.elim (fun h => h rfl) (fun h => h hl)

/-- exact checker: the field matches iff one of its string elements (by inner text) equals the value -/
theorem exact_iff (p : Policy) (f : Field) (v : List Char) :
    exactFits p f (.str v) = .ok true ↔ ∃ e, Elem.str e ∈ p.field f ∧ inner p.stag p.etag e = v := by
  simp only [exactFits, exactLoop_str, Except.ok.injEq, List.any_eq_true, mem_strElems, beq_iff_eq]
  exact exists_congr fun e => and_congr_right fun _ => eq_comm

/-- fuzzy checker: the field matches iff the value is a substring of one of its string elements -/
theorem fuzzy_iff (p : Policy) (f : Field) (v : List Char) :
    fuzzyFits p f (.str v) = .ok true ↔ ∃ e, Elem.str e ∈ p.field f ∧ v <:+: inner p.stag p.etag e := by
  simp only [fuzzyFits, fuzzyLoop_str, Except.ok.injEq, List.any_eq_true, mem_strElems, PyVal.isInfix_iff]

/-- both return a boolean without raising for every string element (the empty one included) and
string value -/
theorem string_total (p : Policy) (f : Field) (v : List Char) :
    (∃ b, exactFits p f (.str v) = .ok b) ∧ (∃ b, fuzzyFits p f (.str v) = .ok b) :=
  ⟨⟨_, exactLoop_str ..⟩, ⟨_, fuzzyLoop_str ..⟩⟩

/-- a field without string elements never matches under the regex, exact or fuzzy checker,
whatever value is offered -/
theorem rule_policy_never_string (p : Policy) (f : Field) (w : PyVal)
    (h : ∀ e ∈ p.field f, e.isStr = false) :
    regexFits p f w = .ok false ∧ exactFits p f w = .ok false ∧ fuzzyFits p f w = .ok false :=
  stringLoops_of_no_str p.stag p.etag w (p.field f) h

/-- a field of string elements never matches under the rules checker -/
theorem string_policy_never_rules (p : Policy) (f : Field) (w : PyVal) (q : Option Inquiry)
    (h : ∀ e ∈ p.field f, e.isStr = true) : rulesFits p f w q = .ok false :=
  congrArg Except.ok (rulesLoop_of_all_str w q (p.field f) h)

/-- at guard level: stores whose policies are all of the other type are denied -/
theorem cross_type_denied (k : CheckerKind) (q : Inquiry) (ps : List Policy) :
    (k ≠ .rules → (∀ p ∈ ps, ∀ e ∈ p.actions, e.isStr = false) → guardDecide k ps q = false) ∧
    (k = .rules → (∀ p ∈ ps, ∀ e ∈ p.actions, e.isStr = true) → guardDecide k ps q = false) :=
  ⟨fun hk h => decide_no_match _ ps fun p hp =>
      guardMatch_of_actions_false k q p ((fits_other_type k p .actions q.action q).1 hk (h p hp)),
   fun hk h => decide_no_match _ ps fun p hp =>
      guardMatch_of_actions_false k q p ((fits_other_type k p .actions q.action q).2 hk (h p hp))⟩

/-! ### Non-vacuity -/
example : exactFits { (default : Policy) with actions := [.str "".toList, .str "<get>".toList], stag := '<', etag := '>' }
    .actions (.str "get".toList) = .ok true := by decide
example : fuzzyFits { (default : Policy) with actions := [.str "<<get>>".toList], stag := '<', etag := '>' }
    .actions (.str "<get>".toList) = .ok true := by decide
example : exactFits { (default : Policy) with actions := [.str "<<get>>".toList], stag := '<', etag := '>' }
    .actions (.str "get".toList) = .ok false := by decide

end Vakt.C06
