import Model.Stack
import Proofs.Guard
import Props.C11
import Props.C12
/-!
# The whole stack refines "a guard over a plain uid-keyed map" (C11 + C12 composed, with C01's decision function)

`create_cached_guard(EnfoldCache(backend, MemoryStorage()), checker, maxsize)` — observable wrapper, enfolding cache,
backend, decision cache — under every history of mutation calls and inquiries: the decision cache is invisible and the enfolding
cache answers like the plain map that received the same mutation calls, for every decision function that ignores listing order.
-/
namespace Vakt.StackP
open Vakt.Store Vakt.CachedGuard Vakt.Enfold Vakt.Stack

variable {Ω κ σ : Type}

def Valid (M : Machine Ω) (answer : St → κ → Bool) (mem : σ → κ → Bool → Prop) (g : SG Ω σ) : Prop :=
  ∀ k v, mem g.cache k v → v = answer (M.cands g.st) k

theorem valid_iff_sound (M : Machine Ω) (answer : St → κ → Bool) (mem : σ → κ → Bool → Prop) (g : SG Ω σ) :
    Valid M answer mem g ↔ Sound mem (answer (M.cands g.st)) g.cache := Iff.rfl

/-- **the decision cache is invisible over any machine** whose raising mutations change nothing the guard can see -/
theorem stack_transparent (M : Machine Ω) (Inv : Ω → Prop) (hk : RaisedKeeps M Inv) (hi : InvKept M Inv)
    (answer : St → κ → Bool) (b : Backend κ σ) (mem : σ → κ → Bool → Prop) (hl : b.Lawful mem) (ops : List (COp κ)) :
    ∀ g : SG Ω σ, Inv g.st → Valid M answer mem g →
      (Stack.run M answer b g ops).2 = (runPlainM M answer g.st ops).2 :=
  fun g hinv hv => congrArg Prod.snd (Stack.run_sim M Inv hk hi answer hl ops g hinv ((valid_iff_sound ..).1 hv))

def IsMut : Op → Prop
  | .add .. => True | .update .. => True | .delete _ => True | .fault => True | _ => False

/-- a backend call that did not return `done` changed nothing (`step_unchanged`), and the enfolding cache hands every
other one through -/
theorem enfold_backend (cfg : Cfg) (s : EState) (op : Op) (hm : IsMut op) :
    (Enfold.step cfg s (toEOp op)).1.backend = (Store.step cfg s.backend op).1 := by
  cases op with
  | add u p ok | update u p ok =>
    simp only [toEOp, Enfold.step]
    split
    · rename_i h; rw [h]
    · rename_i hne h; exact (step_unchanged cfg s.backend _ (by rw [h]; exact hne)).symm
  | delete u | fault => rfl
  | get u | getAll l o | retrieveAll b => exact absurd hm id

/-- one mutation call through a coherent enfolding cache: the backend component moves as the plain map does, the call
returns what the plain map returns, coherence is kept -/
theorem enfold_mutate (cfg : Cfg) (s : EState) (op : Op) (hm : IsMut op) (hc : Coherent s) :
    ((enfoldMachine cfg).mutate s op).1.backend = (Store.step cfg s.backend op).1 ∧
    ((enfoldMachine cfg).mutate s op).2 = (Store.step cfg s.backend op).2 ∧
    Coherent ((enfoldMachine cfg).mutate s op).1 := by
  refine ⟨enfold_backend cfg s op hm, ?_, C12.enfold_inv cfg s (toEOp op) hc⟩
  cases op with
  | add u p ok => exact (C12.mutation_returns_backend_value cfg s u p ok hc).1
  | update u p ok => exact (C12.mutation_returns_backend_value cfg s u p ok hc).2
  | delete u | fault => rfl
  | get u | getAll l o | retrieveAll b => exact absurd hm id

/-- the candidates the guard gets from a coherent enfolding cache are the backend's policies, up to order -/
theorem enfold_cands_perm (cfg : Cfg) (s : EState) (hc : Coherent s) :
    ((enfoldMachine cfg).cands s).Perm s.backend :=
  perm_of_same_lookup _ _ hc.1 hc.2.1 hc.2.2

/-- the cache store only changes by a call on it that returns `done`, and then the whole call returns `done`; so
this needs no coherence -/
theorem enfold_cache_unchanged (cfg : Cfg) (s : EState) (op : Op)
    (hr : raised (Enfold.step cfg s (toEOp op)).2.1 = true) : (Enfold.step cfg s (toEOp op)).1.cache = s.cache := by
  revert hr
  cases op with
  | add u p ok | update u p ok =>
    simp only [toEOp, Enfold.step]
    split
    · exact raised_unchanged memCfg s.cache _
    · exact fun _ => rfl
  | delete u => exact fun hr => absurd hr Bool.false_ne_true
  | fault => exact fun _ => rfl
  | get u | getAll l o | retrieveAll b => simp only [toEOp, Enfold.step]; split <;> exact fun _ => rfl

theorem enfold_raisedKeeps (cfg : Cfg) : RaisedKeeps (enfoldMachine cfg) Coherent :=
  fun s op _ => enfold_cache_unchanged cfg s op

theorem enfold_invKept (cfg : Cfg) : InvKept (enfoldMachine cfg) Coherent :=
  fun s op hc => C12.enfold_inv cfg s (toEOp op) hc

/-- `.mutate` carries mutation calls only -/
def MutOnly : List (COp κ) → Prop
  | [] => True
  | .mutate o :: rest => IsMut o ∧ MutOnly rest
  | _ :: rest => MutOnly rest

/-- **an uncached guard over the enfolding cache answers like one over the plain map** that received the same mutation
calls, for a decision function that ignores the listing order -/
theorem enfold_tracks_backend (cfg : Cfg) (answer : St → κ → Bool)
    (hperm : ∀ (a b : St) (k : κ), a.Perm b → answer a k = answer b k) (ops : List (COp κ)) :
    ∀ s : EState, Coherent s → MutOnly ops →
      (runPlainM (enfoldMachine cfg) answer s ops).2 = (runPlain cfg answer s.backend ops).2 := by
  induction ops with
  | nil => intro s _ _; rfl
  | cons op rest ih =>
    intro s hc hm
    cases op with
    | mutate o =>
      obtain ⟨h1, _, h3⟩ := enfold_mutate cfg s o hm.1 hc
      simp only [runPlainM, runPlain]
      rw [ih _ h3 hm.2, h1]
    | read =>
      simp only [runPlainM, runPlain]
      rw [ih s hc hm]
    | ask k =>
      simp only [runPlainM, runPlain]
      rw [ih s hc hm, hperm _ _ k (enfold_cands_perm cfg s hc)]

/-- **the whole stack — observable wrapper, enfolding cache over any backend configuration, decision cache with any
lawful back-end — answers every inquiry of every history exactly as an uncached guard over a plain uid-keyed map that
received the same mutation calls** -/
theorem full_stack_eq_plain_guard (cfg : Cfg) (answer : St → κ → Bool)
    (hperm : ∀ (a b : St) (k : κ), a.Perm b → answer a k = answer b k)
    (b : Backend κ σ) (mem : σ → κ → Bool → Prop) (hl : b.Lawful mem)
    (s : EState) (hc : Coherent s) (ops : List (COp κ)) (hm : MutOnly ops) :
    (Stack.run (enfoldMachine cfg) answer b (Stack.initial b s) ops).2 = (runPlain cfg answer s.backend ops).2 := by
  rw [stack_transparent (enfoldMachine cfg) Coherent (enfold_raisedKeeps cfg) (enfold_invKept cfg) answer b mem hl ops
        (Stack.initial b s) hc ((valid_iff_sound ..).2 (hl.sound_init _))]
  exact enfold_tracks_backend cfg answer hperm ops s hc hm

/-- … in particular with the default LRU decision cache of any capacity, over an enfolding cache populated from any
backend with any positive batch size -/
theorem full_stack_lru_populated [DecidableEq κ] (cfg : Cfg) (answer : St → κ → Bool)
    (hperm : ∀ (a b : St) (k : κ), a.Perm b → answer a k = answer b k) (cap : Option Nat)
    (backend : St) (hd : Distinct backend) (batch : Nat) (hb : 0 < batch) (ops : List (COp κ)) (hm : MutOnly ops) :
    (Stack.run (enfoldMachine cfg) answer (lruBackend cap)
        (Stack.initial (lruBackend cap) (Enfold.step cfg ⟨[], backend⟩ (.populate batch)).1) ops).2 =
      (runPlain cfg answer backend ops).2 :=
  -- `populate` leaves the backend component as it is
  full_stack_eq_plain_guard cfg answer hperm (lruBackend cap) C11.lruMem (C11.lru_lawful cap) _
    (C12.populate_any_batch cfg backend batch hb hd).1 ops hm

/-- **with vakt's own decision procedure**: `tbl` says which policy a stored content id stands for; the guard of the
stack and the reference guard run `Guard.decide` with any of the four checkers -/
theorem full_stack_guard_decide (cfg : Cfg) (kind : CheckerKind) (tbl : Pol → Policy)
    (b : Backend Inquiry σ) (mem : σ → Inquiry → Bool → Prop) (hl : b.Lawful mem)
    (s : EState) (hc : Coherent s) (ops : List (COp Inquiry)) (hm : MutOnly ops) :
    let answer : St → Inquiry → Bool := fun st q => guardDecide kind (st.map fun kv => tbl kv.2) q
    (Stack.run (enfoldMachine cfg) answer b (Stack.initial b s) ops).2 = (runPlain cfg answer s.backend ops).2 := by
  intro answer
  apply full_stack_eq_plain_guard cfg answer ?_ b mem hl s hc ops hm
  -- the decision ignores the listing order: a permutation has the same members
  intro a c q hp
  exact decide_mem_congr _ _ _ fun _ => (hp.map _).mem_iff

-- a history with a failing mutation, an eviction and a repeated inquiry
example :
    let answer : St → Nat → Bool := fun s k => s.any (fun kv => kv.2 == k)
    let ops : List (COp Nat) := [.ask 1, .mutate (.add "a".toList 1 true), .ask 1, .ask 2, .mutate (.add "a".toList 2 true),
                                 .ask 2, .mutate (.update "a".toList 2 true), .ask 1, .ask 2, .mutate (.delete "a".toList), .ask 2]
    (Stack.run (enfoldMachine ⟨true, false⟩) answer (lruBackend (some 1))
        (Stack.initial (lruBackend (some 1)) ⟨[], []⟩) ops).2 =
      [some false, none, some true, some false, none, some false, none, some false, some true, none, some false] := by
  decide

end Vakt.StackP
