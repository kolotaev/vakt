import Model.MongoRegex
import Proofs.MapOpt
import Props.C07
import Proofs.TagParser
import Proofs.StorageCodec
/-!
# C07 (continued) — the MongoDB ≥ 4.2 prefilter of the regex checker

Over the model of `__regex_query_on_conditions` (`Model/MongoRegex.lean`) and of the stored compiled texts
(`Model/StorageCodec.lean`), for string inquiry values.  Assumption (`SearchSound`): the server's `$regexMatch` with the
anchored text finds every value the model's whole-string match accepts (PCRE `^…$` vs Python `fullmatch` on the subset).
-/
namespace Vakt.C07
open Vakt PyVal Prefilter StorageCodec MongoRegex RuleCodec TagParser

/-- a balanced element that contains a delimiter contains both -/
theorem scan_tagged_hasBoth (s t : Char) (e : List Char) (ps : List Piece)
    (hs : scan s t e = some ps) (ht : tagged s t e = true) : e.contains s = true ∧ e.contains t = true :=
  scan_tagged_contains hs ht

theorem mapOpt_cons_some {α β : Type} (f : α → Option β) (x : α) (xs : List α) (ys : List β)
    (h : mapOpt f (x :: xs) = some ys) : ∃ y ys', f x = some y ∧ mapOpt f xs = some ys' ∧ ys = y :: ys' :=
  RuleCodec.mapOpt_cons_some h

theorem entryText_str {c : Compile} {p : Policy} {e t : List Char} (h : entryText c p (.str e) = some t) :
    (hasTags p e = true → c p.stag p.etag e = some t) ∧ (hasTags p e = false → t = e) := by
  simp only [entryText] at h
  split at h
  · rename_i hh; exact ⟨fun _ => h, fun hf => by rw [hh] at hf; cases hf⟩
  · rename_i hh; exact ⟨fun ht => absurd ht hh, fun _ => (Option.some.inj h).symm⟩

theorem entryText_compiled {c : Compile} {p : Policy} {f : Field} {texts : List (List Char)}
    (ht : mapOpt (entryText c p) (p.field f) = some texts) (e : List Char) (he : Elem.str e ∈ p.field f)
    (hh : hasTags p e = true) : (c p.stag p.etag e).isSome := by
  obtain ⟨t, _, het⟩ := mapOpt_mem ht _ he
  rw [(entryText_str het).1 hh]; rfl

theorem fieldCond_of_fits (search : Search) (hss : SearchSound search) (p : Policy) (f : Field) (w : List Char)
    (texts : List (List Char)) (ht : mapOpt (entryText modelCompile p) (p.field f) = some texts)
    (hf : regexFits p f (.str w) = .ok true) (b : Bool) (hc : fieldCond search w texts = some b) : b = true := by
  simp only [fieldCond, Option.map_eq_some_iff] at hc
  obtain ⟨bs, hm, rfl⟩ := hc
  -- the element that matched, its stored text, and what the server answers for that text
  obtain ⟨e, he, hd⟩ := (regexFits_stored p f w (entryText_compiled ht)).2 hf
  obtain ⟨t, hte, het⟩ := mapOpt_mem ht _ he
  obtain ⟨b, hb, hbt⟩ := mapOpt_mem hm t hte
  have : entryCond search w t = some true := by
    simp only [entryCond]
    split
    · rfl
    · rcases (regexElem_stored p e w (entryText_compiled ht e he)).2 hd with
        ⟨hh, rfl⟩ | ⟨hh, ps, r, rest, hre, hacc, hcomp⟩
      · rename_i hne; exact absurd ((entryText_str het).2 hh) hne
      · rw [Option.some.inj (((entryText_str het).1 hh).symm.trans hcomp)]
        exact hss ps r rest w hre hacc
  rw [this] at hbt
  exact List.any_eq_true.2 ⟨b, hb, (Option.some.inj hbt).symm ▸ rfl⟩

theorem andO_true {x : Option Bool} {k : Unit → Option Bool} (hx : ∀ b, x = some b → b = true)
    (hk : ∀ b, k () = some b → b = true) (b : Bool) (h : andO x k = some b) : b = true := by
  cases x with
  | none => cases h
  | some b1 => cases hx b1 rfl; exact hk b h

/-- **completeness of the candidates**: a policy the regex checker matches on its three fields satisfies the `$expr`,
whenever the expression does not fail -/
theorem regex_candidates_complete (search : Search) (hss : SearchSound search) (p : Policy) (a s r : List Char)
    (hst : isStringTyped p = true)
    (ha : regexFits p .actions (.str a) = .ok true) (hs : regexFits p .subjects (.str s) = .ok true)
    (hr : regexFits p .resources (.str r) = .ok true)
    (b : Bool) (hd : docCond search modelCompile p a s r = some b) : b = true := by
  simp only [docCond, hst, Bool.not_true, Bool.false_eq_true, ↓reduceIte] at hd
  split at hd
  · rename_i ca cs cr hca hcs hcr
    exact andO_true (fieldCond_of_fits search hss p .actions a ca hca ha)
      (andO_true (fieldCond_of_fits search hss p .subjects s cs hcs hs)
        (fieldCond_of_fits search hss p .resources r cr hcr hr)) b hd
  · cases hd

/-- a stored policy the aggregation drops neither matches nor raises -/
theorem regex_dropped_no_match (search : Search) (hss : SearchSound search) (p : Policy) (q : Inquiry)
    (a s r : List Char) (hq : q.action = .str a ∧ q.subject = .str s ∧ q.resource = .str r)
    (hw : WellTyped p) (hstor : isStringTyped p = true → Storable modelCompile p)
    (hd : docCond search modelCompile p a s r = some false) : guardMatch .regex q p = .ok false := by
  by_cases hst : isStringTyped p = true
  · obtain ⟨sa, ss, sr⟩ := hstor hst
    obtain ⟨ca, hca⟩ := Option.isSome_iff_exists.mp sa
    obtain ⟨cs, hcs⟩ := Option.isSome_iff_exists.mp ss
    obtain ⟨cr, hcr⟩ := Option.isSome_iff_exists.mp sr
    have tot {f : Field} {texts : List (List Char)} (w : List Char)
        (ht : mapOpt (entryText modelCompile p) (p.field f) = some texts) : ∃ b, regexFits p f (.str w) = .ok b :=
      (regexFits_stored p f w (entryText_compiled ht)).1
    exact guardMatch_false hq (tot a hca) (tot s hcs) (tot r hcr)
      fun ha hs hr => by cases regex_candidates_complete search hss p a s r hst ha hs hr false hd
  · have hst' : isStringTyped p = false := by simpa using hst
    exact (other_type_no_match .regex q p hw).1 (by decide) hst'

theorem find_eq_filter (search : Search) (c : Compile) (a s r : List Char) (ps cands : List Policy)
    (h : MongoRegex.find search c a s r ps = some cands) :
    cands = ps.filter (fun p => docCond search c p a s r == some true) ∧
    ∀ p ∈ ps, docCond search c p a s r = some true ∨ docCond search c p a s r = some false := by
  induction ps generalizing cands with
  | nil => cases h; exact ⟨rfl, fun _ hp => nomatch hp⟩
  | cons p ps ih =>
    rw [MongoRegex.find] at h
    split at h
    · rename_i rest hd hf
      cases h
      obtain ⟨e, hall⟩ := ih rest hf
      exact ⟨by rw [List.filter_cons_of_pos (by rw [hd]; rfl), ← e], List.forall_mem_cons.2 ⟨.inl hd, hall⟩⟩
    · rename_i rest hd hf
      cases h
      obtain ⟨e, hall⟩ := ih cands hf
      exact ⟨by rw [List.filter_cons_of_neg (by rw [hd]; decide), ← e], List.forall_mem_cons.2 ⟨.inr hd, hall⟩⟩
    · cases h

/-- **decisions do not depend on the prefilter**: when the aggregation succeeds (`hf`), the guard's decision over the
candidates equals its decision over the whole collection -/
theorem mongo42_regex_decision_eq (search : Search) (hss : SearchSound search) (ps cands : List Policy) (q : Inquiry)
    (a s r : List Char) (hq : q.action = .str a ∧ q.subject = .str s ∧ q.resource = .str r)
    (hw : ∀ p ∈ ps, WellTyped p) (hstor : ∀ p ∈ ps, isStringTyped p = true → Storable modelCompile p)
    (hf : MongoRegex.find search modelCompile a s r ps = some cands) :
    decide (guardMatch .regex q) cands = decide (guardMatch .regex q) ps := by
  obtain ⟨e, hall⟩ := find_eq_filter search modelCompile a s r ps cands hf
  rw [e]
  apply superset_ok
  intro p hp hk
  have hd : docCond search modelCompile p a s r = some false := by
    rcases hall p hp with h | h
    · simp [h] at hk
    · exact h
  exact regex_dropped_no_match search hss p q a s r hq (hw p hp) (hstor p hp) hd

/-- the recorded finding `mongo42-invalid-literal-regex`, as a theorem of the model: with a server that rejects `a(b`,
one stored literal `a(b` makes the aggregation fail although another stored policy matches the inquiry -/
theorem invalid_literal_breaks :
    let search : Search := fun rx v => if rx = "a(b".toList then Option.none else some (rx = '^' :: v ++ ['$'])
    let mk : List Char → List Char → Policy := fun uid subj =>
      { uid := .str uid, effect := .str Generated.allowConst, description := .none, subjects := [.str subj],
        resources := [.str "r".toList], actions := [.str "get".toList], context := [], stag := '<', etag := '>' }
    let q : Inquiry := { resource := .str "r".toList, action := .str "get".toList, subject := .str "max".toList, context := .dict [] }
    guardDecide .regex [mk "1".toList "max".toList, mk "2".toList "a(b".toList] q = true ∧
    MongoRegex.find search modelCompile "get".toList "max".toList "r".toList [mk "1".toList "max".toList, mk "2".toList "a(b".toList] = Option.none := by
  decide +kernel

-- non-vacuity: a tagged element matched through the search
example :
    let search : Search := fun rx v => some (rx = "^(m.x)$".toList && v = "max".toList)
    let p : Policy := { uid := .str "1".toList, effect := .str Generated.allowConst, description := .none,
                        subjects := [.str "<m.x>".toList], resources := [.str "r".toList], actions := [.str "get".toList],
                        context := [], stag := '<', etag := '>' }
    regexFits p .subjects (.str "max".toList) = .ok true ∧
    docCond search modelCompile p "get".toList "max".toList "r".toList = some true := by
  decide +kernel

end Vakt.C07
