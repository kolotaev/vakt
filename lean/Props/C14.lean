import Model.Conc
import Proofs.Store
/-!
# C14 — concurrent decisions and in-memory mutations are linearizable

In the three parts of `Model/Conc.lean`: a log that passes `discipline` has every guarded access made by the holder of the lock;
over interleavings of whole critical sections a decision answers for the store at its snapshot; the decision cache keyed by
generation keeps `CInv` under every event, so once every mutation has returned it serves nothing stale.
-/
namespace Vakt.C14
open Vakt.Store Vakt.Conc

theorem discipline_append (l1 l2 : List (Nat × Act)) (owner : Option Nat) :
    discipline owner (l1 ++ l2) = (discipline owner l1).bind (discipline · l2) := by
  induction l1 generalizing owner with
  | nil => rfl
  | cons x rest ih =>
    obtain ⟨t, a⟩ := x
    simp only [List.cons_append, discipline]
    -- `acq`, `rel` or an access: each either stops the run or goes on with the rest under some owner
    split <;> split <;> first | rfl | exact ih _

theorem discipline_at {pre post : List (Nat × Act)} {x : Nat × Act} {owner o : Option Nat}
    (h : discipline owner (pre ++ x :: post) = some o) :
    ∃ o1, discipline owner pre = some o1 ∧ discipline o1 (x :: post) = some o := by
  rw [discipline_append] at h
  cases h1 : discipline owner pre with
  | none => rw [h1] at h; cases h
  | some o1 => exact ⟨o1, rfl, by rwa [h1] at h⟩

/-- **mutual exclusion**: every access to the shared dictionary other than the atomic `get` (`guarded`) is made by the
thread that holds the lock at that moment -/
theorem lock_mutex (pre post : List (Nat × Act)) (t : Nat) (a : Act) (owner o : Option Nat)
    (h : discipline owner (pre ++ (t, a) :: post) = some o) (hg : a.guarded = true) :
    discipline owner pre = some (some t) := by
  obtain ⟨o1, h1, h2⟩ := discipline_at h
  have : discipline o1 ((t, a) :: post) = if a.guarded && o1 != some t then none else discipline o1 post := by
    cases a <;> first | rfl | cases hg
  rw [this, hg, Bool.true_and] at h2
  split at h2
  · cases h2
  · rename_i hne
    rw [h1, Decidable.not_not.1 (fun e => hne (bne_iff_ne.2 e))]

/-- no step of a disciplined log can be a second acquisition: while `t` holds the lock nobody else
enters a critical section, so critical sections are atomic with respect to each other -/
theorem no_interleaving_error (pre post : List (Nat × Act)) (t : Nat) (owner o : Option Nat)
    (h : discipline owner (pre ++ (t, Act.acq) :: post) = some o) : discipline owner pre = some none := by
  obtain ⟨o1, h1, h2⟩ := discipline_at h
  simp only [discipline] at h2
  split at h2
  · rename_i hn; rw [h1, Option.isNone_iff_eq_none.1 hn]
  · cases h2

/-- a snapshot does not change the store: it *is* the store as it stands at that instant -/
theorem snapshot_is_store_version (cfg : Cfg) (s0 : St) (pre : List Ev) (t : Nat) :
    storeAfter cfg s0 (pre ++ [.snap t]) = storeAfter cfg s0 pre := by
  induction pre generalizing s0 with
  | nil => rfl
  | cons e rest ih => cases e <;> simp [storeAfter, ih]

/-- **linearizability of a decision**: the decision whose snapshot is the `i`-th event answers what an uncached guard
answers over the policy set as it stood at that instant — a point between the call's start and its end -/
theorem decision_linearizable {κ : Type} (cfg : Cfg) (answer : St → κ → Bool) (s0 : St) (pre post : List Ev)
    (t : Nat) (k : κ) :
    answerAt cfg answer s0 (pre ++ .snap t :: post) pre.length k = answer (storeAfter cfg s0 pre) k ∧
    answerAt cfg answer s0 (pre ++ .snap t :: post) (pre.length + 1) k = answer (storeAfter cfg s0 pre) k := by
  constructor
  · simp [answerAt]
  · simp only [answerAt]
    have h2 : List.take (pre.length + 1) (pre ++ Ev.snap t :: post) = pre ++ [Ev.snap t] := by
      rw [show pre ++ Ev.snap t :: post = (pre ++ [Ev.snap t]) ++ post by simp]
      rw [List.take_left' (by simp)]
    rw [h2, snapshot_is_store_version]

/-- **concurrent adds of one uid succeed exactly once**: the critical sections run one after the
other in some order; the first finds the uid absent and stores, all later ones are refused -/
theorem add_once (cfg : Cfg) (u : Uid) (ps : List Pol) (s : St) :
    (addResults cfg s (ps.map fun p => (u, p))).count .done =
      (if lookup u s = none ∧ ps ≠ [] then 1 else 0) ∧
    ∀ o ∈ addResults cfg s (ps.map fun p => (u, p)), o = .done ∨ o = .existsErr := by
  induction ps generalizing s with
  | nil => simp [addResults]
  | cons p rest ih =>
    simp only [List.map_cons, addResults]
    cases hl : lookup u s with
    | some p0 =>
      -- refused, store unchanged: the rest is refused as well
      obtain ⟨h1, h2⟩ := ih s
      rw [step_add_present cfg s u p hl]
      simp only [hl, reduceCtorEq, false_and, ↓reduceIte] at h1
      exact ⟨by simp [h1], fun o ho => (List.mem_cons.1 ho).elim (fun e => Or.inr e) (h2 o)⟩
    | none =>
      -- stored: from now on the uid is present
      obtain ⟨h1, h2⟩ := ih (s ++ [(u, p)])
      rw [step_add_absent cfg s u p hl]
      simp only [lookup_snoc p hl, reduceCtorEq, false_and, ↓reduceIte] at h1
      exact ⟨by simp [h1], fun o ho => (List.mem_cons.1 ho).elim (fun e => Or.inl e) (h2 o)⟩

variable {σ κ : Type} [DecidableEq κ]

/-- the generation a thread read is not ahead of the cache's; an answer computed since the last mutation took effect (`fresh`)
is the current decision, any other will be stored under an old generation or before the mutation in flight has returned -/
def ThreadOk (answer : σ → κ → Bool) (c : CState σ κ) (th : Thread κ) : Prop :=
  match th.phase with
  | .idle => True
  | .computing g _ => g ≤ c.gen
  | .computed g k v => g ≤ c.gen ∧ (th.fresh = true → v = answer c.store k) ∧
      (th.fresh = false → g < c.gen ∨ 0 < c.pending)

/-- every entry of the current generation is the current decision whenever no mutation is in
flight; every in-flight computation is either still valid or will land under an old generation -/
def CInv (answer : σ → κ → Bool) (c : CState σ κ) : Prop :=
  (∀ e ∈ c.cache, e.gen ≤ c.gen ∧ (e.gen = c.gen → c.pending = 0 → e.val = answer c.store e.key)) ∧
  (∀ th ∈ c.threads, ThreadOk answer c th)

omit [DecidableEq κ] in
theorem threads_set {answer : σ → κ → Bool} {c : CState σ κ} (ht : ∀ th ∈ c.threads, ThreadOk answer c th) (t : Nat)
    {th1 : Thread κ} (h1 : ThreadOk answer c th1) : ∀ th ∈ setThread c.threads t th1, ThreadOk answer c th :=
  fun th hm => (List.mem_or_eq_of_mem_set hm).elim (ht th) (· ▸ h1)

theorem cstep_inv (answer : σ → κ → Bool) (c : CState σ κ) (e : CEv σ κ) (h : CInv answer c) :
    CInv answer (cstep answer c e).1 := by
  obtain ⟨hc, ht⟩ := h
  -- an event of thread `t` acts only when `t` is in the phase the event needs: then `t` alone is rewritten
  cases e with
  | begin t k =>
    simp only [cstep]
    split
    · split
      · exact ⟨hc, ht⟩                                              -- idle, a hit: answered at once
      · exact ⟨hc, threads_set ht t (Nat.le_refl c.gen)⟩            -- idle, a miss: computing starts at the current generation
    · exact ⟨hc, ht⟩                                                -- any other phase: nothing happens
  | compute t =>
    simp only [cstep]
    split
    · rename_i g k fr hth
      have hold : g ≤ c.gen := ht _ (List.mem_of_getElem? hth)
      exact ⟨hc, threads_set ht t ⟨hold, fun _ => rfl, fun h => by cases h⟩⟩
    · exact ⟨hc, ht⟩
  | finish t =>
    simp only [cstep]
    split
    · rename_i g k v fr hth
      have hold := ht _ (List.mem_of_getElem? hth)
      refine ⟨fun e he => ?_, threads_set ht t trivial⟩
      rcases List.mem_cons.1 he with rfl | he'
      · refine ⟨hold.1, fun hg hp => ?_⟩
        cases fr with
        | true => exact hold.2.1 rfl
        | false =>
          -- a thread that is no longer fresh read an older generation, or a mutation has not returned yet
          exact (hold.2.2 rfl).elim (fun h1 => absurd hg (Nat.ne_of_lt h1)) (fun h1 => absurd hp (Nat.ne_of_gt h1))
      · exact hc e he'
    · exact ⟨hc, ht⟩
  | apply f =>
    simp only [cstep]
    refine ⟨fun e he => ⟨(hc e he).1, fun _ hp => absurd hp (Nat.succ_ne_zero _)⟩, fun th' hm => ?_⟩
    obtain ⟨⟨ph, fr⟩, hm0, rfl⟩ := List.mem_map.1 hm
    have hold := ht _ hm0
    cases ph with
    | idle => trivial
    | computing g k => exact hold
    | computed g k v => exact ⟨hold.1, (fun h => by cases h), fun _ => .inr (Nat.succ_pos _)⟩
  | invalidate =>
    simp only [cstep]
    refine ⟨fun _ he => (List.not_mem_nil he).elim, fun ⟨ph, fr⟩ hm => ?_⟩
    have hold := ht _ hm
    cases ph with
    | idle => trivial
    | computing g k => exact Nat.le_succ_of_le hold
    | computed g k v => exact ⟨Nat.le_succ_of_le hold.1, hold.2.1, fun _ => .inl (Nat.lt_succ_of_le hold.1)⟩

theorem crun_inv (answer : σ → κ → Bool) (evs : List (CEv σ κ)) : ∀ c, CInv answer c → CInv answer (crun answer c evs) := by
  induction evs with
  | nil => intro c h; exact h
  | cons e rest ih => intro c h; exact ih _ (cstep_inv answer c e h)

theorem lookupC_mem (g : Nat) (k : κ) (cache : List (Entry κ)) (v : Bool) (h : lookupC g k cache = some v) :
    ∃ e ∈ cache, e.gen = g ∧ e.key = k ∧ e.val = v := by
  induction cache with
  | nil => simp [lookupC] at h
  | cons e rest ih =>
    simp only [lookupC] at h
    split at h
    · rename_i hc; simp only [Option.some.injEq] at h; exact ⟨e, by simp, hc.1, hc.2, h⟩
    · obtain ⟨e', he', h'⟩ := ih h; exact ⟨e', by simp [he'], h'⟩

/-- **once every mutation has returned, a cache hit is the current decision**: from an empty cache,
after any interleaving of look-ups, computations, stores, mutations and invalidations, if no
mutation is in flight then whatever the cache serves equals the uncached decision over the current
policy set — no answer computed against an older set survives -/
theorem generation_no_stale (answer : σ → κ → Bool) (s0 : σ) (n : Nat) (evs : List (CEv σ κ)) (k : κ) (v : Bool) :
    let c0 : CState σ κ := { store := s0, gen := 0, pending := 0, cache := [],
                             threads := List.replicate n ⟨.idle, true⟩ }
    let c := crun answer c0 evs
    c.pending = 0 → lookupC c.gen k c.cache = some v → v = answer c.store k := by
  intro c0 c hp hl
  have h0 : CInv answer c0 :=
    ⟨fun _ he => (List.not_mem_nil he).elim, fun th hm => List.eq_of_mem_replicate hm ▸ trivial⟩
  have hinv := crun_inv answer evs c0 h0
  obtain ⟨e, he, hg, hk, hv⟩ := lookupC_mem _ _ _ _ hl
  have := (hinv.1 e he).2 hg hp
  rw [← hv, this, hk]

/-- the look-up as it was, ignoring the generation (DESIGN.md section 8, defect 13) -/
def lookupOld (k : κ) : List (Entry κ) → Option Bool
  | [] => none
  | e :: rest => if e.key = k then some e.val else lookupOld k rest

/-- with `lookupOld` a one-preemption schedule leaves a stale entry that is served after the mutation has returned;
`lookupC` does not serve it -/
theorem stale_insert_possible :
    let answer : Bool → Nat → Bool := fun store _ => store          -- "the policy exists"
    let c0 : CState Bool Nat := { store := true, gen := 0, pending := 0, cache := [], threads := [⟨.idle, true⟩] }
    let c := crun answer c0 [.begin 0 7, .compute 0, .apply (fun _ => false), .invalidate, .finish 0]
    c.pending = 0 ∧ lookupOld 7 c.cache = some true ∧ answer c.store 7 = false ∧ lookupC c.gen 7 c.cache = none := by
  decide

end Vakt.C14
