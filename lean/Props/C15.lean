import Proofs.SqlSession
/-!
# C15 — SQL mutations are committed when they return and atomic when they fail

Each theorem is `SqlSession.step_fresh` / `run_fresh` (Proofs/SqlSession.lean) read at a clean session, which is a fresh one
(`clean_eq_fresh`): clean afterwards, committed state and output those of the abstract `Store.step sqlCfg`.
-/
namespace Vakt.C15
open Vakt.Store Vakt.SqlSession

/-- every mutation — whether it returns or raises — leaves the session clean, and the committed
state is exactly what the abstract uid-keyed map says: the effect of a returned operation, and no
change at all for one that raised -/
theorem op_committed_and_clean (s : Sess) (op : Op) (hm : isMut op = true) (hc : Clean s) :
    Clean (SqlSession.step s op).1 ∧
    (SqlSession.step s op).1.committed = (Store.step sqlCfg s.committed op).1 ∧
    (SqlSession.step s op).2 = (Store.step sqlCfg s.committed op).2 := by
  rw [clean_eq_fresh hc, step_fresh _ op hm]
  exact ⟨⟨rfl, rfl⟩, rfl, rfl⟩

theorem run_clean (ops : List Op) (hm : ∀ op ∈ ops, isMut op = true) : ∀ s, Clean s →
    Clean (SqlSession.run s ops).1 ∧
    (SqlSession.run s ops).1.committed = (Store.run sqlCfg s.committed ops).1 ∧
    (SqlSession.run s ops).2 = (Store.run sqlCfg s.committed ops).2 := by
  intro s hc
  rw [clean_eq_fresh hc, run_fresh ops hm]
  exact ⟨⟨rfl, rfl⟩, rfl, rfl⟩

/-- a crash placed after any operation of any history (session discarded without commit, engine
disposed, process killed): what a fresh session then sees is exactly the effect of the operations
that had returned — nothing half-done, nothing lost, nothing undone -/
theorem crash_anywhere (ops : List Op) (hm : ∀ op ∈ ops, isMut op = true) (s0 : St) (k : Nat) :
    (crash (SqlSession.run (fresh s0) (ops.take k)).1).committed = (Store.run sqlCfg s0 (ops.take k)).1 ∧
    (crash (SqlSession.run (fresh s0) (ops.take k)).1).view = (Store.run sqlCfg s0 (ops.take k)).1 := by
  rw [run_fresh (ops.take k) (fun o ho => hm o (List.mem_of_mem_take ho))]
  exact ⟨rfl, rfl⟩

/-- another session on the same database observes a returned mutation at once -/
theorem other_session_sees (s : Sess) (op : Op) (hm : isMut op = true) (hc : Clean s) :
    (fresh (SqlSession.step s op).1.committed).view = (Store.step sqlCfg s.committed op).1 := by
  simp only [fresh]
  exact (op_committed_and_clean s op hm hc).2.1

/-- a mutation that raises never undoes operations that had already returned -/
theorem no_undo_of_returned (s : Sess) (op : Op) (hm : isMut op = true) (hc : Clean s)
    (hr : (SqlSession.step s op).2 = .existsErr ∨ (SqlSession.step s op).2 = .rejected) :
    (SqlSession.step s op).1.committed = s.committed := by
  obtain ⟨_, h1, h2⟩ := op_committed_and_clean s op hm hc
  rw [h1]
  apply step_unchanged
  rw [← h2]
  intro e
  rw [e] at hr
  rcases hr with hr | hr <;> cases hr

/-- counter-model: a session discipline with no commit in `delete` and a rollback in `update` only on IntegrityError
(defects 6 and 7 of DESIGN.md section 8) does *not* have the property -/
example :
    let s := fresh [("y".toList, 1)]
    -- update fails half-way without rollback, then an unrelated add commits: the partial change is published
    let s1 := stage (partialUpdate "y".toList 2) s
    (commit (stage (fun v => v ++ [("z".toList, 3)]) s1)).committed ≠ [("y".toList, 1), ("z".toList, 3)] := by decide

end Vakt.C15
