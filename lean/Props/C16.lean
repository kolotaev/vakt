import Proofs.Cache
import Proofs.Checker
/-!
# C16 — a decision is a pure function of the policy set and the inquiry

The only state a guard keeps between decisions is the regex checker's compile cache: threading a cache of any capacity through
any history of `fits` calls gives the answers of the cache-free checker; the decision (a function of those answers, C01) is
therefore independent of history and capacity.  That asking does not modify the stored policies or the
inquiry is structural in the model (its functions are pure); for the code the correspondence run decides it (dumps before / after).
-/
namespace Vakt.C16
open Vakt PyVal

theorem regexElem_eq_elemWith (stag etag : Char) (e : List Char) (what : PyVal)
    (ht : TagParser.tagged stag etag e = true) :
    regexElem stag etag e what = elemWith (compileKey (e, stag, etag)) what := by
  simp only [regexElem, ht, Bool.not_true, Bool.false_eq_true, ↓reduceIte, compileKey]
  cases TagParser.scan stag etag e with
  | none => rfl
  | some ps =>
    simp only
    cases piecesRe ps <;> rfl

/-- one `fits` call: same answer as the cache-free checker, and the cache stays honest -/
theorem fits_cache_transparent (stag etag : Char) (what : PyVal) (es : List Elem) :
    ∀ c : Lru CKey Compiled, Lru.Inv compileKey c →
      (regexLoopC stag etag what c es).1 = regexLoop stag etag what es ∧
      Lru.Inv compileKey (regexLoopC stag etag what c es).2 := by
  induction es with
  | nil => intro c h; exact ⟨rfl, h⟩
  | cons x rest ih =>
    intro c h
    cases x with
    | str e =>
      simp only [regexLoopC, regexLoop]
      cases ht : TagParser.tagged stag etag e with
      | true =>
        have hc := Lru.call_transparent compileKey Compiled.keep c (e, stag, etag) h
        simp only [Bool.not_true, Bool.false_eq_true, ↓reduceIte, regexElem_eq_elemWith stag etag e what ht, hc.1]
        cases elemWith (compileKey (e, stag, etag)) what with
        | next => exact ih _ hc.2
        | done r => exact ⟨rfl, hc.2⟩
      | false =>
        simp only [Bool.not_false, ↓reduceIte, regexElem_untagged ht]
        split
        · exact ⟨rfl, h⟩
        · exact ih c h
    | _ => exact ih c h

theorem runFits_transparent (calls : List (Policy × Field × PyVal)) :
    ∀ c : Lru CKey Compiled, Lru.Inv compileKey c →
      (runFits c calls).1 = calls.map (fun x => regexFits x.1 x.2.1 x.2.2) := by
  induction calls with
  | nil => intro c _; rfl
  | cons x rest ih =>
    intro c h
    obtain ⟨p, f, w⟩ := x
    have := fits_cache_transparent p.stag p.etag w (p.field f) c h
    simp only [runFits, regexFitsC, List.map_cons, this.1, ih _ this.2, regexFits]

/-- any history of `fits` calls, any starting cache capacity (None, 0, 1, 2, …): every answer is
the cache-free answer — nothing a previous question left behind influences a later one -/
theorem history_independent (cap : Option Nat) (calls : List (Policy × Field × PyVal)) :
    (runFits (Lru.empty cap) calls).1 = calls.map (fun c => regexFits c.1 c.2.1 c.2.2) :=
  runFits_transparent calls _ (Lru.inv_empty compileKey cap)

/-- asking again right away gives the same answer (special case, stated for emphasis) -/
theorem ask_twice_same (cap : Option Nat) (p : Policy) (f : Field) (w : PyVal) :
    (runFits (Lru.empty cap) [(p, f, w), (p, f, w)]).1 = [regexFits p f w, regexFits p f w] :=
  history_independent cap _

end Vakt.C16
