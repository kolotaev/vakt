import Proofs.Serialize
/-!
# C09 — persisted policies keep their meaning (document-level decoding, value codec)

The document-level part of C09: the decoding logic of `from_json` for opaque field contents, and the value codec.
That jsonpickle / pickle / SQLAlchemy write and rebuild a rule object as the model's codec says is decided by the
correspondence run, not proved.
-/
namespace Vakt.C09
open Vakt PyVal Vakt.Serialize

theorem has_erase_ne (k k' : String) (d : Doc) (h : k.toList ≠ k'.toList) :
    Serialize.has k (Serialize.erase k' d) = Serialize.has k d := by
  rw [Serialize.has, lookup_erase, if_neg h]; rfl

/-- a document without a uid is refused -/
theorem decode_no_uid_refused (d : Doc) (h : has "uid" d = false) : fromDoc d = .error .creation := by
  simp [fromDoc, h]

/-- reading stored data never lets it override the computed policy type: a stored `type` field is
dropped before the policy is built -/
theorem decode_type_ignored (d : Doc) : has "type" (propsOf d) = false := by
  rw [has, propsOf, lookup_erase, if_pos rfl]; rfl

/-- a missing effect is treated as deny -/
theorem decode_missing_effect_deny (d : Doc) (r : Decoded) (hu : has "uid" d = true)
    (he : has "effect" d = false) (h : fromDoc d = .ok r) : r.effect = .str Generated.denyConst := by
  rw [fromDoc_eq d hu] at h
  rw [construct_ok h, get_effect_propsOf, has_false_get _ _ he]; rfl

/-- an empty (falsy) effect is treated as deny -/
theorem decode_empty_effect_deny (d : Doc) (r : Decoded) (hu : has "uid" d = true)
    (he : truthy (get "effect" d) = false) (h : fromDoc d = .ok r) : r.effect = .str Generated.denyConst := by
  rw [fromDoc_eq d hu] at h
  rw [construct_ok h, get_effect_propsOf]
  exact if_neg (by rw [he]; exact Bool.false_ne_true)

theorem context_of_propsOf {d : Doc} {r : Decoded} {ks : List PyVal} (hu : has "uid" d = true) (h : fromDoc d = .ok r)
    (hg : get "context" (propsOf d) = .list ks) : r.context = .list ks := by
  rw [fromDoc_eq d hu] at h
  rw [construct_ok h]
  exact (ctxOf_dictLike (by rw [hg]; rfl)).trans hg

/-- the deprecated `rules` field becomes the context when there is no `context` field -/
theorem decode_legacy_rules_to_context (d : Doc) (r : Decoded) (ks : List PyVal) (hu : has "uid" d = true)
    (hc : has "context" d = false) (hr : has "rules" d = true) (hv : get "rules" d = .list ks)
    (h : fromDoc d = .ok r) : r.context = .list ks :=
  context_of_propsOf hu h (by rw [get_context_propsOf, if_neg (by rw [hc]; exact Bool.false_ne_true), if_pos hr, hv])

/-- when both are present, `context` wins -/
theorem decode_context_wins (d : Doc) (r : Decoded) (ks : List PyVal) (hu : has "uid" d = true)
    (hc : has "context" d = true) (hv : get "context" d = .list ks) (h : fromDoc d = .ok r) :
    r.context = .list ks :=
  context_of_propsOf hu h (by rw [get_context_propsOf, if_pos hc, hv])

/-- a field the constructor does not know is refused -/
theorem decode_unknown_field_refused (p : Doc) (k : List Char) (v : PyVal) (hk : (k, v) ∈ p)
    (hn : (knownArgs.map String.toList).contains k = false) : construct p = .error .typeError := by
  unfold construct
  have : p.any (fun kv => !(knownArgs.map String.toList).contains kv.1) = true :=
    List.any_eq_true.2 ⟨(k, v), hk, by simp only [hn]; rfl⟩
  simp only [this, ↓reduceIte]

theorem dec_enc_val : ∀ v : PyVal, noTags v = true → decVal (encVal v) = v := Serialize.dec_enc_val
theorem dec_enc_list : ∀ xs : List PyVal, noTagsList xs = true → decList (encList xs) = xs := Serialize.dec_enc_list
theorem dec_enc_kvs : ∀ kvs : List (List Char × PyVal), noTagsKVs kvs = true → decKVs (encKVs kvs) = kvs := Serialize.dec_enc_kvs

/-- the JSON text's value codec is lossless: tuples (tagged) and nested containers come back as
they were, provided no dictionary uses jsonpickle's reserved tag as a key -/
theorem value_roundtrip (v : PyVal) (h : noTags v = true) : decVal (encVal v) = v := Serialize.dec_enc_val v h

/-- the document a policy is written as -/
def toDoc (r : Decoded) (typ : PyVal) : Doc :=
  [("uid".toList, r.uid), ("type".toList, typ), ("subjects".toList, r.subjects), ("effect".toList, r.effect),
   ("resources".toList, r.resources), ("actions".toList, r.actions), ("context".toList, r.context),
   ("description".toList, r.description)]

/-- **document-level round trip**: whatever the field contents are, a policy
whose effect is truthy and whose context is a dictionary is read back from the document it was
written as with exactly its uid, effect, description, elements and context — and the stored
`type` plays no role -/
theorem policy_roundtrip_partial (r : Decoded) (typ : PyVal)
    (hc : isDictLike r.context = true) (he : truthy r.effect = true) : fromDoc (toDoc r typ) = .ok r := by
  rw [fromDoc_eq _ rfl, construct]
  -- the document is evaluated symbolically; literal keys compared as strings, see `Proofs/Lits.lean`
  simp only [ctxOf_dictLike, propsOf, toDoc, Serialize.has, Serialize.get, Serialize.put, Serialize.erase, lookup, knownArgs,
    List.filter_cons, List.filter_nil, List.cons_append, List.nil_append, List.any_cons, List.any_nil, List.map_cons, List.map_nil,
    List.contains_cons, List.contains_nil, Bool.beq_eq_decide_eq, bne_iff_ne, ne_eq, decide_false, decide_true,
    String.toList_inj, String.reduceEq, not_false_eq_true, not_true_eq_false, ↓reduceIte, Option.isSome_some, Option.getD_some,
    Bool.not_true, Bool.or_false, Bool.or_true, Bool.false_eq_true, he, hc]

end Vakt.C09
