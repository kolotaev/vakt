import Model.SqlQuery
import Props.C06
import Props.C07
import Proofs.StorageCodec
/-!
# C07 (continued) — the SQL prefilters of the fuzzy and regex checkers

Over `Model/SqlQuery.lean` (SQL `LIKE` modelled exactly; the regex-operator query over the child rows that
`PolicyModel._save` writes): `LIKE '%w%'` finds every element that contains `w` when the dialect has no escape
character (SQLite) and misses one when the backslash escapes (MySQL, PostgreSQL).  Assumption of the regex part
(`SqlQuery.SearchSound`, the `Bool`-valued counterpart of `MongoRegex.SearchSound`): the dialect's regex operator with the anchored
text finds every value the model's whole-string match accepts.
-/
namespace Vakt.C07
open Vakt PyVal Prefilter StorageCodec RuleCodec TagParser SqlQuery

/-! ## `LIKE` -/

theorem anySuffix_self (f : List Char → Bool) (s : List Char) (h : f s = true) : anySuffix f s = true := by
  cases s <;> simp [anySuffix, h]

theorem anySuffix_append (f : List Char → Bool) (pre s : List Char) (h : anySuffix f s = true) :
    anySuffix f (pre ++ s) = true := by
  induction pre with
  | nil => exact h
  | cons c t ih => simp [anySuffix, ih]

theorem anySuffix_of_nil (f : List Char → Bool) (h : f [] = true) (s : List Char) : anySuffix f s = true := by
  induction s with
  | nil => exact h
  | cons c t ih => simp [anySuffix, ih]

theorem tokAux_none_append (w rest : List Char) :
    tokAux Option.none false (w ++ rest) = tokAux Option.none false w ++ tokAux Option.none false rest := by
  induction w with
  | nil => simp [tokAux]
  | cons c t ih =>
    simp only [List.cons_append, tokAux, reduceCtorEq, ↓reduceIte]
    split
    · simp [ih]
    · split <;> simp [ih]

/-- the tokens of `w` (no escape character) match `w` itself, followed by whatever the rest of the pattern matches -/
theorem likeT_self (ceq : Char → Char → Bool) (hr : ∀ c, ceq c c = true) (rest : List Tok) (w post : List Char)
    (h : likeT ceq rest post = true) : likeT ceq (tokAux Option.none false w ++ rest) (w ++ post) = true := by
  induction w with
  | nil => simpa [tokAux] using h
  | cons c t ih =>
    simp only [List.cons_append, tokAux, reduceCtorEq, ↓reduceIte]
    split
    · -- `c` is a `%`: it matches the one character `c`
      simp only [List.cons_append, likeT, anySuffix]
      rw [anySuffix_self _ _ ih]
      simp
    · split
      · simp [likeT, ih]
      · simp [likeT, hr, ih]

/-- the pattern `w%` matches every string that starts with `w` — also when `w` contains `%` or `_` -/
theorem like_prefix (ceq : Char → Char → Bool) (hr : ∀ c, ceq c c = true) (w post : List Char) :
    like ceq Option.none (w ++ ['%']) (w ++ post) = true := by
  simp only [like, tokAux_none_append]
  apply likeT_self ceq hr
  simp only [tokAux, reduceCtorEq, ↓reduceIte, likeT]
  exact anySuffix_of_nil _ (by simp) post

/-- **completeness of `LIKE '%w%'` without an escape character**: every string containing `w` matches -/
theorem like_infix (ceq : Char → Char → Bool) (hr : ∀ c, ceq c c = true) (w e : List Char) (h : w <:+: e) :
    like ceq Option.none (fuzzyPattern w) e = true := by
  obtain ⟨pre, post, rfl⟩ := h
  have := like_prefix ceq hr w post
  simp only [like] at this
  simp only [fuzzyPattern, like, tokAux, reduceCtorEq, ↓reduceIte, likeT, List.append_assoc]
  exact anySuffix_append _ pre _ (anySuffix_self _ _ this)

/-- with the backslash as escape character (the default of MySQL and PostgreSQL) the same pattern misses an element
that contains the value: `'a\b' LIKE '%a\b%'` is false, because `\b` in the pattern stands for a plain `b` -/
theorem like_escape_incomplete :
    "a\\b".toList <:+: "a\\b".toList ∧
    like (fun a b => a == b) (some '\\') (fuzzyPattern "a\\b".toList) "a\\b".toList = false := by
  refine ⟨List.infix_refl _, ?_⟩
  decide

theorem sqliteCeq_refl (c : Char) : sqliteCeq c c = true := by simp [sqliteCeq]

/-! ## the stored rows of a string-based policy -/

theorem row_typ_string (c : Compile) (p : Policy) (row : SqlRow) (h : toRow c p = some row) :
    pyEq row.typ (.int Generated.typeStringBased) = isStringTyped p := by
  rw [(toRow_fields c p row h).1, typeOf, strBased_eq]
  cases isStringTyped p
  · exact type_consts_ne
  · rfl

/-- `superset_ok` at `SqlQuery.find`: every policy has a row, and a row the query's condition rejects belongs to a policy that
neither matches nor raises -/
theorem sql_find_decision_eq (m : Policy → R) (cond : SqlRow → Bool) (c : Compile) (ps : List Policy)
    (hstor : ∀ p ∈ ps, (toRow c p).isSome)
    (h : ∀ p ∈ ps, ∀ row, toRow c p = some row → cond row = false → m p = .ok false) :
    decide m (SqlQuery.find cond c ps) = decide m ps := by
  unfold SqlQuery.find
  apply superset_ok
  intro p hp hk
  obtain ⟨row, hrow⟩ := Option.isSome_iff_exists.mp (hstor p hp)
  simp only [hrow] at hk
  exact h p hp row hrow (by simpa using hk)

/-! ## the fuzzy checker -/

/-- **completeness**: a field the fuzzy checker matches has a child row satisfying the `LIKE` (no escape character) -/
theorem sql_fuzzy_complete (ceq : Char → Char → Bool) (hr : ∀ c, ceq c c = true) (c : Compile) (p : Policy)
    (row : SqlRow) (hrow : toRow c p = some row) (hst : isStringTyped p = true) (f : Field) (w : List Char)
    (hf : fuzzyFits p f (.str w) = .ok true) : likeField ceq Option.none (row.field f) w = true := by
  obtain ⟨e, he, hi⟩ := (C06.fuzzy_iff p f w).1 hf
  have hinf : w <:+: e := List.IsInfix.trans hi (inner_infix _ _ e)
  obtain ⟨r, hm, hr'⟩ := mapOpt_mem ((toRow_fields c p row hrow).2 f) _ he
  have hs := (elemToDb_str ((strBased_eq p).trans hst) hr').1
  simp only [likeField, List.any_eq_true]
  exact ⟨r, hm, by simp [hs, like_infix ceq hr w e hinf]⟩

/-- a stored policy the fuzzy query does not return neither matches nor raises -/
theorem sql_fuzzy_dropped_no_match (ceq : Char → Char → Bool) (hr : ∀ c, ceq c c = true) (c : Compile) (p : Policy)
    (row : SqlRow) (hrow : toRow c p = some row) (hw : WellTyped p) (q : Inquiry) (a s r : List Char)
    (hq : q.action = .str a ∧ q.subject = .str s ∧ q.resource = .str r)
    (hd : fuzzyCond ceq Option.none row a s r = false) : guardMatch .fuzzy q p = .ok false := by
  rw [fuzzyCond, row_typ_string c p row hrow] at hd
  exact string_query_sound (by decide) hw hq (fun f w => likeField ceq Option.none (row.field f) w)
    (fun hst f w => ⟨⟨_, fuzzyLoop_str ..⟩, sql_fuzzy_complete ceq hr c p row hrow hst f w⟩) hd

/-- **the fuzzy decision over SQL (no escape character) is the decision over the whole table** -/
theorem sql_fuzzy_decision_eq (ceq : Char → Char → Bool) (hr : ∀ c, ceq c c = true) (c : Compile) (ps : List Policy)
    (q : Inquiry) (a s r : List Char) (hq : q.action = .str a ∧ q.subject = .str s ∧ q.resource = .str r)
    (hw : ∀ p ∈ ps, WellTyped p) (hstor : ∀ p ∈ ps, (toRow c p).isSome) :
    decide (guardMatch .fuzzy q) (SqlQuery.find (fun row => fuzzyCond ceq Option.none row a s r) c ps) =
      decide (guardMatch .fuzzy q) ps :=
  sql_find_decision_eq _ _ c ps hstor fun p hp row hrow hd =>
    sql_fuzzy_dropped_no_match ceq hr c p row hrow (hw p hp) q a s r hq hd

/-! ## the regex checker on a dialect with a regex operator -/

theorem row_compiled {c : Compile} (p : Policy) (row : SqlRow) (hrow : toRow c p = some row)
    (hst : isStringTyped p = true) (f : Field) (e : List Char) (he : Elem.str e ∈ p.field f)
    (hh : hasTags p e = true) : (c p.stag p.etag e).isSome := by
  obtain ⟨r, _, her⟩ := mapOpt_mem ((toRow_fields _ p row hrow).2 f) _ he
  have hr := (elemToDb_str ((strBased_eq p).trans hst) her).2.1 hh
  rw [hr.1]; exact hr.2

/-- **completeness**: a field the regex checker matches has a child row satisfying the regex condition -/
theorem sql_regex_complete (search : Search) (hss : SearchSound search) (p : Policy) (row : SqlRow)
    (hrow : toRow modelCompile p = some row) (hst : isStringTyped p = true) (f : Field) (w : List Char)
    (hf : regexFits p f (.str w) = .ok true) : regexField search (row.field f) w = true := by
  -- the element that matched and its child row
  obtain ⟨e, he, hd⟩ := (regexFits_stored p f w (row_compiled p row hrow hst f)).2 hf
  obtain ⟨r, hm, her⟩ := mapOpt_mem ((toRow_fields _ p row hrow).2 f) _ he
  obtain ⟨hs, hr1, hr0⟩ := elemToDb_str ((strBased_eq p).trans hst) her
  refine List.any_eq_true.2 ⟨r, hm, ?_⟩
  rcases (regexElem_stored p e w (row_compiled p row hrow hst f e he)).2 hd with
    ⟨hh, rfl⟩ | ⟨hh, ps, re, rest, hre, hacc, hcomp⟩
  · simp [regexRow, hr0 hh, hs]
  · simp only [regexRow, ← (hr1 hh).1, hcomp]
    exact hss ps re rest w hre hacc

/-- a stored policy the regex query does not return neither matches nor raises -/
theorem sql_regex_dropped_no_match (search : Search) (hss : SearchSound search) (p : Policy) (row : SqlRow)
    (hrow : toRow modelCompile p = some row) (hw : WellTyped p) (q : Inquiry) (a s r : List Char)
    (hq : q.action = .str a ∧ q.subject = .str s ∧ q.resource = .str r)
    (hd : regexCond search row a s r = false) : guardMatch .regex q p = .ok false := by
  rw [regexCond, row_typ_string _ p row hrow] at hd
  exact string_query_sound (by decide) hw hq (fun f w => regexField search (row.field f) w)
    (fun hst f w => ⟨(regexFits_stored p f w (row_compiled p row hrow hst f)).1,
      sql_regex_complete search hss p row hrow hst f w⟩) hd

/-- **the regex decision over a regex-capable SQL dialect is the decision over the whole table** -/
theorem sql_regex_decision_eq (search : Search) (hss : SearchSound search) (ps : List Policy) (q : Inquiry)
    (a s r : List Char) (hq : q.action = .str a ∧ q.subject = .str s ∧ q.resource = .str r)
    (hw : ∀ p ∈ ps, WellTyped p) (hstor : ∀ p ∈ ps, (toRow modelCompile p).isSome) :
    decide (guardMatch .regex q) (SqlQuery.find (fun row => regexCond search row a s r) modelCompile ps) =
      decide (guardMatch .regex q) ps :=
  sql_find_decision_eq _ _ modelCompile ps hstor fun p hp row hrow hd =>
    sql_regex_dropped_no_match search hss p row hrow (hw p hp) q a s r hq hd

/-! ### Non-vacuity -/
example : like sqliteCeq Option.none (fuzzyPattern "a%_b".toList) "xxA%_Byy".toList = true ∧
    like sqliteCeq Option.none (fuzzyPattern "a_c".toList) "abc".toList = true ∧      -- `_` as a wildcard: an extra candidate
    like sqliteCeq Option.none (fuzzyPattern "abc".toList) "ab".toList = false := by decide

example :
    let search : Search := fun rx v => rx = "^(m.x)$".toList && v = "max".toList
    let p : Policy := { uid := .str "1".toList, effect := .str Generated.allowConst, description := .none,
                        subjects := [.str "<m.x>".toList], resources := [.str "r".toList], actions := [.str "get".toList],
                        context := [], stag := '<', etag := '>' }
    regexFits p .subjects (.str "max".toList) = .ok true ∧
    (toRow modelCompile p).map (fun row => regexCond search row "get".toList "max".toList "r".toList) = some true := by
  decide +kernel

end Vakt.C07
