import Proofs.RuleCodec
import Props.C09
import Model.Guard
/-!
# C09 (continued) — the rule and policy codec round trip

What `jsonpickle` writes for a rule object, an element, a context and a whole policy is modelled by `RuleCodec.enc*`, what
`Policy.from_json` rebuilds from it by `RuleCodec.dec*` (compared with the implementation's JSON text by the correspondence run).
Well-formed (`wf`): no junk where a rule is expected, no reserved jsonpickle tag as a key inside a rule argument, truthy effect.
-/
namespace Vakt.C09
open Vakt PyVal Serialize RuleCodec

/-- the class path determines the rule class: the table regenerated from /repo has no repetition -/
theorem rule_classes_distinct : classes.Nodup := classes_nodup

/-- **rule round trip**, for every rule (any nesting depth) and any sufficient fuel -/
theorem rule_roundtrip (r : Rule) (h : Rule.wf r = true) (n : Nat) (hn : Rule.depth r ≤ n) :
    decRule n (encRule r) = some r := dec_enc_rule n r h hn

/-- a rule read back decides every value and inquiry as the rule that was written -/
theorem rule_meaning_preserved (r : Rule) (h : Rule.wf r = true) (w : PyVal) (q : Option Inquiry) :
    (decRule (Rule.depth r) (encRule r)).map (fun r' => Rule.eval r' w q) = some (Rule.eval r w q) := by
  rw [dec_enc_rule _ r h (Nat.le_refl _)]; rfl

theorem elem_roundtrip (e : Elem) (h : Elem.wf e = true) (n : Nat) (hn : Elem.depth e ≤ n) :
    decElem n (encElem e) = some e := dec_enc_elem e h n hn

/-- **policy round trip**: a well-formed policy is read back from the document it was written as,
with every element and context rule rebuilt — whatever type number was stored with it -/
theorem policy_roundtrip (p : Policy) (h : Policy.wf p = true) (typ : PyVal) (n : Nat) (hn : Policy.depth p ≤ n) :
    decPolicy n p.stag p.etag (encPolicy p typ) = some p := by
  simp only [Policy.wf, Bool.and_eq_true] at h
  obtain ⟨⟨⟨⟨he, hs⟩, hr⟩, ha⟩, hc⟩ := h
  simp only [Policy.depth, Nat.max_le] at hn
  obtain ⟨⟨ds, dr⟩, ⟨da, dc⟩⟩ := hn
  -- `encPolicy p typ` is `C09.toDoc` of these fields by unfolding: both list the eight keys in the same (writing) order
  have hdoc : fromDoc (encPolicy p typ) = .ok _ :=
    policy_roundtrip_partial
      { uid := p.uid, effect := p.effect, description := p.description,
        subjects := .list (p.subjects.map encElem), resources := .list (p.resources.map encElem),
        actions := .list (p.actions.map encElem), context := .dict (encAttrs p.context) } typ rfl he
  simp only [decPolicy, hdoc, decElems, decCtx, dec_enc_elems _ hs n ds, dec_enc_elems _ hr n dr,
    dec_enc_elems _ ha n da, dec_enc_attrs _ hc n dc]

/-- … hence it matches exactly the same inquiries, under every checker (`fits`) -/
theorem policy_meaning_preserved (p : Policy) (h : Policy.wf p = true) (typ : PyVal) (n : Nat)
    (hn : Policy.depth p ≤ n) :
    ∃ p', decPolicy n p.stag p.etag (encPolicy p typ) = some p' ∧
      ∀ (fits : Policy → Field → PyVal → Inquiry → R) (q : Inquiry), matchP fits p' q = matchP fits p q :=
  ⟨p, policy_roundtrip p h typ n hn, fun _ _ => rfl⟩

/-- the stored type number never influences what is read back -/
theorem stored_type_irrelevant (p : Policy) (h : Policy.wf p = true) (t1 t2 : PyVal) (n : Nat)
    (hn : Policy.depth p ≤ n) :
    decPolicy n p.stag p.etag (encPolicy p t1) = decPolicy n p.stag p.etag (encPolicy p t2) := by
  rw [policy_roundtrip p h t1 n hn, policy_roundtrip p h t2 n hn]

example :
    let r : Rule := .and [.eq (.tuple [.int 1, .str "a".toList]), .not (.isIn [.int 1]), .inqMatch .subject (some (.str "n".toList)),
                          .regexMatch "a.*".toList, .strEqual "x".toList true]
    Rule.wf r = true ∧ Rule.depth r = 3 ∧ (decRule 3 (encRule r)).isSome = true ∧ (decRule 2 (encRule r)).isSome = false := by
  intro r
  have hw : Rule.wf r = true := by decide +kernel
  have hd : Rule.depth r = 3 := rfl
  refine ⟨hw, hd, ?_, ?_⟩
  · rw [dec_enc_rule 3 r hw (Nat.le_of_eq hd)]; rfl
  · -- the `In` under `Not` is met with no fuel left (evaluating `decRule` would decode the class paths over and over)
    have h1 : decRule 1 (encRule (.not (.isIn [.int 1]))) = Option.none := decRule_enc 0 _ rfl
    rw [decRule_enc 1 r hw]
    exact congrArg (fun o => (o.map Rule.and).isSome) (mapOpt_eq_none (List.mem_cons_of_mem _ (List.mem_cons_self ..)) h1)

/-- the probes of /repo behind `Generated.ruleClasses` and behind `objectTag` / `reservedTags` (`"mongoMigration3"`) ran:
one that cannot be run leaves its tables empty and its name in `Generated.probeFailures` (`harness/extract.py`) -/
theorem codec_probes_ok : ¬ ("ruleClasses" ∈ Generated.probeFailures) ∧ ¬ ("mongoMigration3" ∈ Generated.probeFailures) := by decide

end Vakt.C09
