import Model.Backends
import Proofs.Backends
import Props.C08
import Proofs.SqlSession
/-!
# C08 (continued) — each concrete storage refines the abstract uid-keyed map

`Model/Backends.lean` writes down what `MemoryStorage`, `RedisStorage`, `MongoStorage`, `SQLStorage` and
`ObservableMutationStorage` do with their clients' primitives.  Each refines `Store.step`: once the representation is forgotten
(serialized bytes, the session's committed / view split, the notification counter) every operation gives the same output and the
same next abstract state.  So every theorem of `Props/C08.lean` holds of each model; `run_refines` lifts it to every history.
-/
namespace Vakt.C08B
open Vakt.Store Vakt.Backends

/-- a concrete step function refines the abstract store, for operations in `Dom`, on states satisfying `Inv` -/
structure Refines {σ : Type} (stepC : σ → Op → σ × Out × List Call) (abs : σ → St) (cfg : Cfg)
    (Inv : σ → Prop) (Dom : Op → Prop) : Prop where
  inv : ∀ s op, Inv s → Dom op → Inv (stepC s op).1
  state : ∀ s op, Inv s → Dom op → abs (stepC s op).1 = (Store.step cfg (abs s) op).1
  out : ∀ s op, Inv s → Dom op → (stepC s op).2.1 = (Store.step cfg (abs s) op).2

/-- a refinement of single steps is a refinement of whole histories: same outputs, same final abstract state -/
theorem run_refines {σ : Type} {stepC : σ → Op → σ × Out × List Call} {abs : σ → St} {cfg : Cfg}
    {Inv : σ → Prop} {Dom : Op → Prop} (h : Refines stepC abs cfg Inv Dom) :
    ∀ (ops : List Op) (s : σ), Inv s → (∀ op ∈ ops, Dom op) →
      Inv (runC stepC s ops).1 ∧
      abs (runC stepC s ops).1 = (Store.run cfg (abs s) ops).1 ∧
      (runC stepC s ops).2 = (Store.run cfg (abs s) ops).2 := by
  intro ops
  induction ops with
  | nil => intro s hi _; exact ⟨hi, rfl, rfl⟩
  | cons op rest ih =>
    intro s hi hd
    have hop := hd op List.mem_cons_self
    have hrest : ∀ o ∈ rest, Dom o := fun o ho => hd o (List.mem_cons_of_mem _ ho)
    obtain ⟨i1, i2, i3⟩ := ih (stepC s op).1 (h.inv s op hi hop) hrest
    refine ⟨i1, ?_, ?_⟩
    · simp only [runC, Store.run]
      rw [i2, h.state s op hi hop]
    · simp only [runC, Store.run]
      rw [i3, h.state s op hi hop, h.out s op hi hop]

theorem Refines.of_step {σ : Type} {stepC : σ → Op → σ × Out × List Call} {abs : σ → St} {cfg : Cfg}
    {Inv : σ → Prop} {Dom : Op → Prop}
    (h : ∀ s op, Inv s → Dom op →
      Inv (stepC s op).1 ∧ (abs (stepC s op).1, (stepC s op).2.1) = Store.step cfg (abs s) op) :
    Refines stepC abs cfg Inv Dom :=
  ⟨fun s op hi hd => (h s op hi hd).1, fun s op hi hd => congrArg Prod.fst (h s op hi hd).2,
   fun s op hi hd => congrArg Prod.snd (h s op hi hd).2⟩

/-- the policy is one the backend can store (`ok = true`), for the backends that accept every policy -/
def AllOk : Op → Prop
  | .add _ _ ok => ok = true
  | .update _ _ ok => ok = true
  | _ => True

def memCfg : Cfg := ⟨false, false⟩
def redisCfg : Cfg := ⟨false, true⟩
def mongoCfg : Cfg := ⟨true, true⟩

theorem memGetAll_paged (d : Mem) : IsPaged (memGetAll d) d := fun l o =>
  paged_guard l o _ d fun hl ho => by
    simp only [Int.toNat_add hl ho, pySlice_eq_page]
    split
    · rename_i hz
      simp only [Bool.or_eq_true, decide_eq_true_eq, beq_iff_eq] at hz
      rcases hz with hz | hz
      · rw [page_beyond d _ _ hz]
      · rw [hz, Int.toNat_zero, page_zero]
    · rfl

/-- **MemoryStorage refines the uid-keyed map** (listing in insertion order) -/
theorem memory_refines : Refines memStep id memCfg (fun _ => True) AllOk := by
  refine .of_step fun d op _ hd => ⟨trivial, ?_⟩
  show ((memStep d op).1, (memStep d op).2.1) = Store.step memCfg d op
  cases op with
  | add u p ok =>
    obtain rfl : ok = true := hd
    cases hl : lookup u d with
    | none => simp [step_add_absent _ _ _ _ hl, memStep, dictGet_eq_lookup, dictSet_eq, hl]
    | some v => simp [step_add_present _ _ _ _ hl, memStep, dictGet_eq_lookup, hl]
  | update u p ok =>
    obtain rfl : ok = true := hd
    cases hl : lookup u d with
    | none => simp [step_update_true, memStep, dictGet_eq_lookup, hl, replace_absent u p d hl]
    | some v => simp [step_update_true, memStep, dictGet_eq_lookup, dictSet_eq, hl]
  | delete u =>
    cases hl : lookup u d with
    | none => simp [step_delete, memStep, dictGet_eq_lookup, hl, erase_absent u d hl]
    | some v => simp [step_delete, memStep, dictGet_eq_lookup, hl, dictDel_eq_erase]
  | get u => exact congrArg (fun x => (d, Out.pol x)) (dictGet_eq_lookup u d)
  | getAll l o =>
    rw [step_getAll_paged memCfg d (memGetAll_paged d)]
    simp only [memStep]; cases memGetAll d l o <;> rfl
  | retrieveAll b =>
    rw [step_retrieveAll_paged memCfg d (memGetAll_paged d) (n := d.length) rfl]
    simp only [memStep]; cases retrLoop (memGetAll d) b (d.length + 1) 0 <;> rfl
  | fault => rfl

theorem redisGetAll_paged (sr : Ser) (h : RHash) : IsPaged (redisGetAll sr h) (feed sr h) := fun l o =>
  paged_guard l o _ _ fun hl ho => by
    rw [Int.toNat_add hl ho, islice, Nat.add_sub_cancel, feed_page]

/-- **RedisStorage refines the uid-keyed map**, for any lawful serializer: the hash of serialized values, read
through `deserialize`, is the map of policies (listing in the order the hash is returned) -/
theorem redis_refines (sr : Ser) (hs : sr.Lawful) :
    Refines (redisStep sr) (feed sr) redisCfg NonEmptyVals AllOk := by
  refine .of_step fun h op hi hd => ?_
  cases op with
  | add u p ok =>
    obtain rfl : ok = true := hd
    obtain ⟨b, hser⟩ := Option.isSome_iff_exists.1 (hs.total p)
    cases hg : dictGet u h with
    | none =>
      have hl : lookup u (feed sr h) = none := by rw [lookup_feed, hg]; rfl
      simp [redisStep, hser, hg, step_add_absent _ _ _ _ hl, feed_append, hs.roundtrip p b hser,
        nonEmpty_append h u b (hs.nonempty p b hser) hi]
    | some v =>
      have hl : lookup u (feed sr h) = some (sr.deser v) := by rw [lookup_feed, hg]; rfl
      simp [redisStep, hser, hg, step_add_present _ _ _ _ hl, hi]
  | update u p ok =>
    obtain rfl : ok = true := hd
    obtain ⟨b, hser⟩ := Option.isSome_iff_exists.1 (hs.total p)
    cases hg : dictGet u h with
    | none =>
      have hl : lookup u (feed sr h) = none := by rw [lookup_feed, hg]; rfl
      simp [redisStep, hser, hg, step_update_true, replace_absent u p _ hl, hi]
    | some v =>
      have hl : lookup u (feed sr h) = some (sr.deser v) := by rw [lookup_feed, hg]; rfl
      simp [redisStep, hser, hg, step_update_true, feed_dictSet, dictSet_eq, hl, hs.roundtrip p b hser,
        nonEmpty_dictSet h u b (hs.nonempty p b hser) hi]
  | delete u => exact ⟨nonEmpty_dictDel h u hi, congrArg (fun x => (x, Out.done)) (feed_dictDel sr u h)⟩
  | get u =>
    simp only [redisStep, step_get, lookup_feed]
    cases hg : dictGet u h with
    | none => exact ⟨hi, rfl⟩
    | some b =>
      -- `if not ret`: a stored value is never the empty byte string
      have : b.isEmpty = false := List.isEmpty_eq_false_iff.2 (hi (u, b) (dictGet_mem u b h hg))
      simp only [this]
      exact ⟨hi, rfl⟩
  | getAll l o =>
    rw [step_getAll_paged redisCfg (feed sr h) (redisGetAll_paged sr h)]
    simp only [redisStep]; cases redisGetAll sr h l o <;> exact ⟨hi, rfl⟩
  | retrieveAll b =>
    rw [step_retrieveAll_paged redisCfg (feed sr h) (redisGetAll_paged sr h) (feed_length sr h)]
    simp only [redisStep]; cases retrLoop (redisGetAll sr h) b (h.length + 1) 0 <;> exact ⟨hi, rfl⟩
  | fault => exact ⟨hi, rfl⟩

/-- a serializer that raises makes `add` report the policy-exists error (the broad handler of `RedisStorage.add`)
and `update` re-raise; the hash is untouched in both cases -/
theorem redis_serializer_failure (sr : Ser) (h : RHash) (u : Uid) (p : Pol) (ok : Bool) (hf : sr.ser p = none) :
    redisStep sr h (.add u p ok) = (h, .existsErr, []) ∧ redisStep sr h (.update u p ok) = (h, .rejected, []) := by
  simp [redisStep, hf]

theorem mongoGetAll_paged (c : Coll) : IsPaged (mongoGetAll c) (sortUid c) := fun l o =>
  paged_guard l o _ _ fun hl ho => by
    split
    · rename_i hz
      rw [beq_iff_eq.1 hz, Int.toNat_zero, page_zero]
    · rename_i hz
      have hz' : l ≠ 0 := fun e => hz (beq_iff_eq.2 e)
      have : l.toNat ≠ 0 := by omega
      simp only [mongoFind, this, ↓reduceIte, page]

/-- **MongoStorage refines the uid-keyed map** (listing sorted by `_id`; documents are prepared before the client
is called, so a policy that cannot be converted is refused before anything is looked up).  The `limit == 0` guard
is what makes `get_all(0, _)` empty although `find(limit=0)` means "no limit". -/
theorem mongo_refines : Refines mongoStep id mongoCfg (fun _ => True) (fun _ => True) := by
  refine .of_step fun c op _ _ => ⟨trivial, ?_⟩
  show ((mongoStep c op).1, (mongoStep c op).2.1) = Store.step mongoCfg c op
  cases op with
  | add u p ok =>
    cases ok
    · rfl
    · cases hl : lookup u c with
      | none => simp [step_add_absent _ _ _ _ hl, mongoStep, dictGet_eq_lookup, hl]
      | some v => simp [step_add_present _ _ _ _ hl, mongoStep, dictGet_eq_lookup, hl]
  | update u p ok =>
    cases ok
    · rfl
    · cases hl : lookup u c with
      | none => simp [step_update_true, mongoStep, dictGet_eq_lookup, hl, replace_absent u p c hl]
      | some v => simp [step_update_true, mongoStep, dictGet_eq_lookup, dictSet_eq, hl]
  | delete u => exact congrArg (fun x => (x, Out.done)) (dictDel_eq_erase u c)
  | get u => exact congrArg (fun x => (c, Out.pol x)) (dictGet_eq_lookup u c)
  | getAll l o =>
    rw [step_getAll_paged mongoCfg c (mongoGetAll_paged c)]
    simp only [mongoStep]; cases mongoGetAll c l o <;> rfl
  | retrieveAll b =>
    rw [step_retrieveAll_paged mongoCfg c (mongoGetAll_paged c) (sortUid_perm c).length_eq]
    simp only [mongoStep]; cases retrLoop (mongoGetAll c) b (c.length + 1) 0 <;> rfl
  | fault => rfl

/-- without the guard, `get_all(0, o)` would return the rest of the collection: the guard is not redundant -/
example : mongoFind [("a".toList, 1), ("b".toList, 2)] 0 0 = [("a".toList, 1), ("b".toList, 2)] := by decide

open Vakt.SqlSession in
theorem sqlGetAll_paged (s : Sess) : IsPaged (sqlGetAll s) (sortUid s.view) := fun l o =>
  paged_guard l o _ _ fun hl ho => by
    rw [Int.toNat_add ho hl, Nat.add_sub_cancel_left]; rfl

open Vakt.SqlSession in
/-- **SQLStorage refines the uid-keyed map** through the writer session's view (listing sorted by uid; the policy is
converted after the row was looked up).  On a clean session the view is also what every other session sees (C15). -/
theorem sql_refines : Refines sqlStep (fun s => s.view) sqlCfg Clean (fun _ => True) := by
  refine .of_step fun s op hc _ => ?_
  -- a mutation is the session program of C15; a clean session has nothing pending, so its view is what is committed
  have hmut : isMut op = true → sqlStep s op = ((SqlSession.step s op).1, (SqlSession.step s op).2, []) →
      Clean (sqlStep s op).1 ∧ ((sqlStep s op).1.view, (sqlStep s op).2.1) = Store.step sqlCfg s.view op := by
    intro hm e
    rw [e, clean_eq_fresh hc, step_fresh _ op hm]
    exact ⟨⟨rfl, rfl⟩, rfl⟩
  cases op with
  | add _ _ _ | update _ _ _ | delete _ | fault => exact hmut rfl rfl
  | get u => exact ⟨hc, congrArg (fun x => (s.view, Out.pol x)) (dictGet_eq_lookup u s.view)⟩
  | getAll l o =>
    rw [step_getAll_paged sqlCfg s.view (sqlGetAll_paged s)]
    simp only [sqlStep]; cases sqlGetAll s l o <;> exact ⟨hc, rfl⟩
  | retrieveAll b =>
    rw [step_retrieveAll_paged sqlCfg s.view (sqlGetAll_paged s) (sortUid_perm s.view).length_eq]
    simp only [sqlStep]; cases retrLoop (sqlGetAll s) b (s.view.length + 1) 0 <;> exact ⟨hc, rfl⟩

/-- **the observable wrapper refines whatever the wrapped storage refines** (it is a proxy) … -/
theorem observable_refines {σ : Type} {stepC : σ → Op → σ × Out × List Call} {abs : σ → St} {cfg : Cfg}
    {Inv : σ → Prop} {Dom : Op → Prop} (h : Refines stepC abs cfg Inv Dom) :
    Refines (obsStep stepC) (fun s => abs s.inner) cfg (fun s => Inv s.inner) Dom :=
  ⟨fun s op hi hd => h.inv s.inner op hi hd, fun s op hi hd => h.state s.inner op hi hd,
   fun s op hi hd => h.out s.inner op hi hd⟩

/-- … and counts one notification for every mutation call that returned, none for a read or a mutation that raised
(C11's "notifies exactly once after it has been applied, reads never do") -/
theorem observable_notifies {σ : Type} (stepC : σ → Op → σ × Out × List Call) (s : Obs σ) (op : Op) :
    (obsStep stepC s op).1.notified =
      s.notified + (if isMutation op && (stepC s.inner op).2.1 == .done then 1 else 0) := rfl

/-- the notification is the last thing the call does: the wrapped storage's own calls come first -/
theorem observable_notify_last {σ : Type} (stepC : σ → Op → σ × Out × List Call) (s : Obs σ) (op : Op)
    (hm : isMutation op = true) (hd : (stepC s.inner op).2.1 = .done) :
    (obsStep stepC s op).2.2 = (stepC s.inner op).2.2 ++ [.notify] := by
  simp [obsStep, hm, hd]

/-- how the abstract theorems transfer, e.g. `failed_mutation_noop` to the Redis model: a mutation that raises leaves the
stored policies as they were -/
theorem redis_failed_mutation_noop (sr : Ser) (hs : sr.Lawful) (h : RHash) (hi : NonEmptyVals h) (op : Op)
    (hd : AllOk op)
    (hf : (redisStep sr h op).2.1 = .existsErr ∨ (redisStep sr h op).2.1 = .rejected ∨
          (redisStep sr h op).2.1 = .valueError) :
    feed sr (redisStep sr h op).1 = feed sr h := by
  have r := redis_refines sr hs
  rw [r.state h op hi hd]
  rw [r.out h op hi hd] at hf
  exact C08.failed_mutation_noop redisCfg (feed sr h) op hf

/-- full retrieval through the Mongo model yields the sorted collection once, for every positive batch size -/
theorem mongo_retrieve_all (c : Coll) (b : Int) (hb : 0 < b) :
    (mongoStep c (.retrieveAll b)).2.1 = .pols (sortUid c) := by
  rw [mongo_refines.out c _ trivial trivial, step_retrieveAll, if_neg (by omega), retrieveAll_eq _ _ (by omega)]
  rfl

-- a concrete history through the Redis, the Mongo and the SQL model

def demoSer : Ser := ⟨fun p => some [p + 1], fun b => b.headD 1 - 1⟩
theorem demoSer_lawful : demoSer.Lawful :=
  ⟨fun _ => rfl, fun p b h => by simp [demoSer] at h; subst h; simp [demoSer], fun p b h => by
    simp [demoSer] at h; subst h; simp⟩

example : (runC (redisStep demoSer) [] [.add "b".toList 1 true, .add "a".toList 2 true, .add "b".toList 3 true,
    .update "a".toList 4 true, .delete "zz".toList, .get "a".toList, .getAll 5 0, .retrieveAll 1]).2 =
    [.done, .done, .existsErr, .done, .done, .pol (some 4),
     .pols [("b".toList, 1), ("a".toList, 4)], .pols [("b".toList, 1), ("a".toList, 4)]] := by decide

example : (runC mongoStep [] [.add "b".toList 1 true, .add "a".toList 2 true, .add "b".toList 3 true,
    .update "c".toList 9 false, .update "a".toList 4 true, .getAll 0 0, .getAll 5 0, .retrieveAll 1]).2 =
    [.done, .done, .existsErr, .rejected, .done, .pols [],
     .pols [("a".toList, 4), ("b".toList, 1)], .pols [("a".toList, 4), ("b".toList, 1)]] := by decide

example : (runC sqlStep (SqlSession.fresh []) [.add "b".toList 1 true, .add "b".toList 3 true,
    .update "b".toList 9 false, .get "b".toList, .delete "b".toList, .get "b".toList]).2 =
    [.done, .existsErr, .rejected, .pol (some 1), .done, .pol none] := by decide

end Vakt.C08B
