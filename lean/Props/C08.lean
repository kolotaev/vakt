import Model.Store
import Proofs.Store
/-!
# C08 — every storage is a uid-keyed map; failed mutations change nothing

Theorems about the abstract storage `Store.step` that every backend and wrapper is compared with.
-/
namespace Vakt.C08
open Vakt.Store

/-- adding an existing uid is refused with the policy-exists error and changes nothing -/
theorem add_existing_refused (cfg : Cfg) (s : St) (u : Uid) (p p0 : Pol) (h : lookup u s = some p0) :
    step cfg s (.add u p true) = (s, .existsErr) := step_add_present cfg s u p h

/-- adding a fresh uid stores exactly that binding and keeps every other one -/
theorem add_fresh (cfg : Cfg) (s : St) (u : Uid) (p : Pol) (h : lookup u s = none) :
    (step cfg s (.add u p true)).2 = .done ∧
    ∀ u', lookup u' (step cfg s (.add u p true)).1 = if u' = u then some p else lookup u' s := by
  rw [step_add_absent cfg s u p h]
  exact ⟨rfl, lookup_snoc p h⟩

/-- updating an absent uid changes nothing -/
theorem update_absent_noop (cfg : Cfg) (s : St) (u : Uid) (p : Pol) (ok : Bool) (h : lookup u s = none) :
    (step cfg s (.update u p ok)).1 = s := by
  cases ok
  · rw [step_update_false]
  · rw [step_update_true, replace_absent u p s h]

/-- updating a present uid rebinds exactly that uid -/
theorem update_present (cfg : Cfg) (s : St) (u : Uid) (p p0 : Pol) (h : lookup u s = some p0) :
    (step cfg s (.update u p true)).2 = .done ∧
    ∀ u', lookup u' (step cfg s (.update u p true)).1 = if u' = u then some p else lookup u' s := by
  rw [step_update_true]
  refine ⟨rfl, fun u' => ?_⟩
  rw [lookup_replace, h]
  rfl

/-- deleting an absent uid changes nothing; deleting a present one removes exactly that binding -/
theorem delete_spec (cfg : Cfg) (s : St) (u : Uid) (hd : Distinct s) :
    (lookup u s = none → (step cfg s (.delete u)).1 = s) ∧
    (∀ u', lookup u' (step cfg s (.delete u)).1 = if u' = u then none else lookup u' s) :=
  ⟨erase_absent u s, fun u' => lookup_erase u u' hd⟩

/-- a mutation that raises (policy-exists, or a policy the backend cannot store) leaves the
stored set exactly as it was -/
theorem failed_mutation_noop (cfg : Cfg) (s : St) (op : Op)
    (h : (step cfg s op).2 = .existsErr ∨ (step cfg s op).2 = .rejected ∨ (step cfg s op).2 = .valueError) :
    (step cfg s op).1 = s := by
  apply step_unchanged
  intro e
  rw [e] at h
  rcases h with h | h | h <;> cases h

theorem reads_pure (cfg : Cfg) (s : St) (u : Uid) (l o b : Int) :
    (step cfg s (.get u)).1 = s ∧ (step cfg s (.getAll l o)).1 = s ∧ (step cfg s (.retrieveAll b)).1 = s := by
  rw [step_getAll, step_retrieveAll]
  exact ⟨rfl, rfl, rfl⟩

/-- the keys stay pairwise distinct under every operation: the store is a map -/
theorem distinct_preserved (cfg : Cfg) (s : St) (op : Op) (hd : Distinct s) : Distinct (step cfg s op).1 := by
  cases op with
  | add u p ok =>
    cases ok
    · exact hd
    · cases hl : lookup u s with
      | none => rw [step_add_absent cfg s u p hl]; exact distinct_snoc u p s hd hl
      | some _ => rw [step_add_present cfg s u p hl]; exact hd
  | update u p ok =>
    cases ok
    · rw [step_update_false]; exact hd
    · rw [step_update_true]; exact distinct_replace u p s hd
  | delete u => exact distinct_erase u s hd
  | get u => exact hd
  | getAll l o => rw [step_getAll]; exact hd
  | retrieveAll b => rw [step_retrieveAll]; exact hd
  | fault => exact hd

theorem get_is_lookup (cfg : Cfg) (s : St) (u : Uid) : (step cfg s (.get u)).2 = .pol (lookup u s) := rfl

/-- limit zero is empty; a negative limit or offset is rejected -/
theorem getAll_edges (cfg : Cfg) (s : St) (o l : Int) (ho : 0 ≤ o) :
    (step cfg s (.getAll 0 o)).2 = .pols [] ∧
    (l < 0 → (step cfg s (.getAll l o)).2 = .valueError) ∧
    (∀ o' : Int, o' < 0 → (step cfg s (.getAll l o')).2 = .valueError) := by
  simp only [step_getAll]
  refine ⟨?_, fun hl => if_pos (Or.inl hl), fun o' ho' => if_pos (Or.inr ho')⟩
  rw [if_neg (by omega), Int.toNat_zero, page_zero]

/-- consecutive pages tile the listing -/
theorem pages_tile (l : St) (k : Nat) (n : Nat) :
    (List.range n).flatMap (fun i => page l k (i * k)) = l.take (n * k) := by
  induction n with
  | zero => simp
  | succ m ih =>
    rw [List.range_succ, List.flatMap_append, ih]
    simp only [List.flatMap_cons, List.flatMap_nil, List.append_nil, page]
    rw [Nat.succ_mul, List.take_add]

/-- … hence the whole collection once enough pages are taken -/
theorem pages_cover (l : St) (k n : Nat) (h : l.length ≤ n * k) :
    (List.range n).flatMap (fun i => page l k (i * k)) = l := by
  rw [pages_tile, List.take_of_length_le h]

/-- full retrieval yields the whole listing, each policy exactly once, for every positive batch
size; the loop's fuel (`length + 1` iterations) is never exhausted -/
theorem retrieveAll_all (l : St) (b : Nat) (hb : 0 < b) : retrieveAll l b = l := retrieveAll_eq l b hb

/-- the listing (sorted or not) is a permutation of the stored bindings -/
theorem listing_perm (cfg : Cfg) (s : St) : (listing cfg s).Perm s := Store.listing_perm cfg s

/-- over any history of operations the store remains a map -/
theorem history_distinct (cfg : Cfg) (ops : List Op) : ∀ s, Distinct s → Distinct (run cfg s ops).1 := by
  induction ops with
  | nil => intro s h; exact h
  | cons op rest ih => intro s h; exact ih _ (distinct_preserved cfg s op h)

example : (run ⟨true, false⟩ [] [.add "b".toList 1 true, .add "a".toList 2 true, .add "b".toList 3 true,
    .update "a".toList 4 true, .delete "zz".toList, .getAll 5 0, .retrieveAll 1]).2 =
    [.done, .done, .existsErr, .done, .done,
     .pols [("a".toList, 4), ("b".toList, 1)], .pols [("a".toList, 4), ("b".toList, 1)]] := by decide

end Vakt.C08
