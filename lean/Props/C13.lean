import Model.InquiryEq
import Proofs.InquiryEq
/-!
# C13 — inquiry equality and hash are content-based and process-stable

`Inquiry.__eq__` compares, and `__hash__` hashes, the sorted JSON text; the model compares the tree behind that text,
`Inquiry.canon` (`Model/InquiryEq.lean`).  The canonical form forgets the key order of dictionaries and nothing else the
text keeps.
-/
namespace Vakt.C13
open Vakt PyVal

/-- two inquiries compare equal exactly when their canonical forms are the same tree -/
theorem eq_iff_canon (a b : Inquiry) : a.eqv b = true ↔ a.canon = b.canon := beqVal_iff _ _

/-- … i.e. when resource, action, subject and context have the same canonical content -/
theorem eq_iff_fields (a b : Inquiry) :
    a.eqv b = true ↔ canon a.action = canon b.action ∧ canon a.context = canon b.context ∧
      canon a.resource = canon b.resource ∧ canon a.subject = canon b.subject := by
  rw [eq_iff_canon]
  simp only [Inquiry.canon, PyVal.dict.injEq, List.cons.injEq, Prod.mk.injEq, true_and, and_true]

/-- equality is an equivalence relation -/
theorem eqv_equivalence (a b c : Inquiry) :
    a.eqv a = true ∧ (a.eqv b = true → b.eqv a = true) ∧ (a.eqv b = true → b.eqv c = true → a.eqv c = true) := by
  simp only [eq_iff_canon]
  exact ⟨trivial, Eq.symm, Eq.trans⟩

/-- equal inquiries have equal hashes, whatever the text rendering `render` and whatever the hash `H` of the text is — in
particular in every process, whatever the string-hash seed -/
theorem eq_hash {τ η : Type} (render : PyVal → τ) (H : τ → η) (a b : Inquiry) (h : a.eqv b = true) :
    H (render a.canon) = H (render b.canon) := by
  rw [(eq_iff_canon a b).1 h]

/-- dictionary key order is irrelevant: permuting the entries of a dictionary (with distinct keys)
does not change the canonical form … -/
theorem key_order_irrelevant (kvs kvs' : List (List Char × PyVal)) (hp : kvs.Perm kvs')
    (hd : (kvs.map Prod.fst).Nodup) : canon (.dict kvs) = canon (.dict kvs') := by
  simp only [canon]
  congr 1
  apply sortKV_perm_eq _ _ (canonKVs_perm hp)
  rw [canonKVs_keys]; exact hd

/-- "at any depth": a container's canonical form depends on its children only through theirs -/
theorem canon_congr :
    (∀ xs ys : List PyVal, canonList xs = canonList ys → canon (.list xs) = canon (.list ys) ∧
        canon (.tuple xs) = canon (.tuple ys)) ∧
    (∀ (k : List Char) (v v' : PyVal) (rest : List (List Char × PyVal)), canon v = canon v' →
        canon (.dict ((k, v) :: rest)) = canon (.dict ((k, v') :: rest))) := by
  constructor
  · intro xs ys h; simp [canon, h]
  · intro k v v' rest h; simp [canon, canonKVs, h]

/-- canonicalisation leaves atoms as they are (for containers idempotence is not proved) -/
theorem canon_atoms (v : PyVal) (h : match v with | .list _ => False | .tuple _ => False | .dict _ => False | _ => True) :
    canon v = v := by
  cases v <;> simp_all [canon]

/-- the type distinctions the JSON text keeps are kept: `1`, `1.0` and `True` are three different
contents, and so are a list and the tuple of the same items, and `''` and a missing value -/
theorem type_distinctions (xs : List PyVal) :
    canon (.int 1) ≠ canon (.flt 1 0) ∧ canon (.int 1) ≠ canon (.bool true) ∧
    canon (.flt 1 0) ≠ canon (.bool true) ∧ canon (.list xs) ≠ canon (.tuple xs) ∧
    canon (.str []) ≠ canon .none ∧ canon (.int 0) ≠ canon (.bool false) := by
  simp [canon]

/-- a one-point difference in a list item is a difference of the whole list -/
theorem one_point_distinct (x y : PyVal) (pre post : List PyVal) (h : canon x ≠ canon y) :
    canon (.list (pre ++ x :: post)) ≠ canon (.list (pre ++ y :: post)) := by
  have step : ∀ pre : List PyVal, canonList (pre ++ x :: post) ≠ canonList (pre ++ y :: post) := by
    intro pre
    induction pre with
    | nil => simp [canonList, h]
    | cons a t ih => simp [canonList, ih]
  simp [canon, step pre]

/-- a dictionary with an extra key is different content -/
theorem extra_key_distinct (kvs : List (List Char × PyVal)) (k : List Char) (v : PyVal) :
    canon (.dict ((k, v) :: kvs)) ≠ canon (.dict kvs) := by
  simp only [canon, ne_eq, PyVal.dict.injEq]
  intro h
  have h1 := (sortKV_perm (canonKVs ((k, v) :: kvs))).length_eq
  have h2 := (sortKV_perm (canonKVs kvs)).length_eq
  have l1 : (canonKVs ((k, v) :: kvs)).length = (canonKVs kvs).length + 1 := by simp [canonKVs]
  rw [h] at h1
  omega

/-- omitted or empty fields normalise to the empty string, an omitted or empty context to `{}` -/
theorem norm_falsy (r a s c : PyVal) :
    (truthy r = false → (Inquiry.mk' r a s c).resource = .str []) ∧
    (truthy a = false → (Inquiry.mk' r a s c).action = .str []) ∧
    (truthy s = false → (Inquiry.mk' r a s c).subject = .str []) ∧
    (truthy c = false → (Inquiry.mk' r a s c).context = .dict []) := by
  refine ⟨fun h => ?_, fun h => ?_, fun h => ?_, fun h => ?_⟩ <;> simp [Inquiry.mk', h]

/-- `Inquiry()` and `Inquiry(resource='', action=(), subject=0, context={})` are one inquiry -/
theorem empty_forms_equal :
    (Inquiry.mk' .none .none .none .none).eqv (Inquiry.mk' (.str []) (.tuple []) (.int 0) (.dict [])) = true :=
  (eq_iff_canon _ _).2 rfl

example : (Inquiry.mk' (.dict [("b".toList, .int 1), ("a".toList, .dict [("y".toList, .none), ("x".toList, .bool true)])])
      (.str "get".toList) .none .none).eqv
    (Inquiry.mk' (.dict [("a".toList, .dict [("x".toList, .bool true), ("y".toList, .none)]), ("b".toList, .int 1)])
      (.str "get".toList) (.str []) (.dict [])) = true := by decide
example : (Inquiry.mk' (.list [.int 1]) .none .none .none).eqv (Inquiry.mk' (.tuple [.int 1]) .none .none .none) = false := by
  decide +kernel

end Vakt.C13
