import Model.Migration
import Proofs.Migration
import Proofs.MigrationRestore
/-!
# C18 — migrations run in order, gated by the recorded version, and resume after failure

Statements about `Migration.request`, worded in `chain`, `core` and `gatedB` of `Proofs/Migration.lean`; `up_down_restores` rests on
`Proofs/MigrationRestore.lean`.
-/
namespace Vakt.C18
open Vakt.Migration

/-- every `up` invocation of a request is above, and every `down` invocation at or below, the version recorded at that
moment; consecutive invocations of one request are therefore strictly ascending (up) or strictly descending (down): `chain` -/
theorem gated_and_ordered (orders : List Nat) (st : MState) (r : Req) (f : Fault) :
    ∃ new : List Nat,
      (request orders st r f).1.trace = st.trace ++ new.map (fun n => (r.dir, n)) ∧
      chain r.dir st.last new ∧ (∀ n ∈ new, n ∈ orders) := by
  obtain ⟨new, h1, h2, h3⟩ := loop_trace r.dir f (select orders r) 0 st
  exact ⟨new, h1, h2, fun n hn => mem_select (h3 n hn)⟩

/-- the version is recorded after each completed step, so when a request raises, the step that
did not complete is still ahead of the recorded version -/
theorem version_never_past_failed (orders : List Nat) (st st1 : MState) (r : Req) (f : Fault)
    (h : request orders st r f = (st1, true)) :
    ∃ n, st1.trace.getLast? = some (r.dir, n) ∧ gatedB r.dir n st1.last = true := by
  obtain ⟨pre, n, post, _, hg, rfl | rfl⟩ := loop_raised r.dir f (select orders r) 0 st st1 h
  -- both `broken` states end the trace with `n` and keep `last` of the state before the step, of which `hg` speaks
  · exact ⟨n, List.getLast?_concat, hg⟩
  · exact ⟨n, List.getLast?_concat, hg⟩

theorem select_pos (orders : List Nat) (r : Req) (hpos : ∀ m ∈ orders, 0 < m) : ∀ m ∈ select orders r, 0 < m :=
  fun m hm => hpos m (mem_select hm)

theorem request_dead (orders : List Nat) (hpos : ∀ m ∈ orders, 0 < m) (st : MState) (r : Req) :
    ∀ m ∈ select orders r, dead r.dir m (request orders st r .none).1.last := by
  rw [request_none]
  exact (fold_dead r.dir _ (select_pos orders r hpos) st).2

/-- a failed run is resumed by repeating the request: the interrupted request followed by the same
request without fault ends with the version and schema of the request run without fault -/
theorem resume (orders : List Nat) (hpos : ∀ m ∈ orders, 0 < m) (st st1 : MState) (r : Req) (f : Fault)
    (h : request orders st r f = (st1, true)) :
    core (request orders st1 r .none).1 = core (request orders st r .none).1 :=
  (loop_resume r.dir (select orders r) (select_pos orders r hpos) f 0 st st1 h).2

/-- repeating a completed request does nothing -/
theorem idempotent (orders : List Nat) (hpos : ∀ m ∈ orders, 0 < m) (st : MState) (r : Req) :
    request orders (request orders st r .none).1 r .none = ((request orders st r .none).1, false) := by
  refine (request_none ..).trans ?_
  rw [fold_all_dead _ _ _ (request_dead orders hpos st r)]

/-- an unfaulted request never raises -/
theorem completes (orders : List Nat) (st : MState) (r : Req) : (request orders st r .none).2 = false := by
  rw [request_none]

/-- **a full up followed by a full down restores the initial schema state**: starting with no
schema effect in place (whatever version is recorded), after a whole-set `up` and a whole-set
`down` no schema effect is in place and every migration of the set is again above the recorded
version — for every declaration order of the set -/
theorem up_down_restores (orders : List Nat) (hpos : ∀ m ∈ orders, 0 < m) (st : MState) (hs : st.schema = []) :
    (request orders (request orders st ⟨.up, none⟩ .none).1 ⟨.down, none⟩ .none).1.schema = [] ∧
    ∀ m ∈ orders, (request orders (request orders st ⟨.up, none⟩ .none).1 ⟨.down, none⟩ .none).1.last < m := by
  -- after the `up` every migration of the set is at or below the version, after the `down` every one is above it
  have hup := request_dead orders hpos st ⟨.up, none⟩
  have hdown := request_dead orders hpos (request orders st ⟨.up, none⟩ .none).1 ⟨.down, none⟩
  refine ⟨List.eq_nil_iff_forall_not_mem.2 fun x hx => ?_, fun m hm => hdown m (List.mem_reverse.2 (mem_sortAsc.2 hm))⟩
  -- a schema effect left at the end was there after the `up` and is not of the set; the `up` added only the set's
  have hdesc : (sortAsc orders).reverse.Pairwise (· ≥ ·) := List.pairwise_reverse.2 (sortAsc_sorted orders)
  obtain ⟨h1, h2⟩ := loop_down_schema _ hdesc 0 _ (fun m hm => .inl (hup m (List.mem_reverse.1 hm))) x hx
  rcases loop_up_schema_sub _ 0 st x h1 with h | h
  · rw [hs] at h; cases h
  · exact h2 (List.mem_reverse.2 h)

/-- … and when the set is numbered from 1, the recorded version is back at 0 -/
theorem up_down_restores_version (orders : List Nat) (hpos : ∀ m ∈ orders, 0 < m) (h1 : 1 ∈ orders)
    (st : MState) (hs : st.schema = []) :
    (request orders (request orders st ⟨.up, none⟩ .none).1 ⟨.down, none⟩ .none).1.last = 0 := by
  have := (up_down_restores orders hpos st hs).2 1 h1
  omega

/-- the shipped migration sets declare pairwise distinct, positive order numbers -/
theorem shipped_orders_ok :
    Generated.sqlOrders.Nodup ∧ Generated.mongoOrders.Nodup ∧
    (∀ m ∈ Generated.sqlOrders, 0 < m) ∧ (∀ m ∈ Generated.mongoOrders, 0 < m) := by decide

-- a failing whole-set run, its resumption, and a full down
example :
    let o := [3, 1, 2]
    let a := request o initial ⟨.up, none⟩ (.body 2)
    a.2 = true ∧ a.1.last = 2 ∧ a.1.schema = [1, 2] ∧
    (request o a.1 ⟨.up, none⟩ .none).1.last = 3 ∧
    (request o (request o a.1 ⟨.up, none⟩ .none).1 ⟨.down, none⟩ .none).1.schema = [] := by decide

/-- the probes of /repo behind `Generated.mongoOrders` / `sqlOrders` ran: one that fails is named in `Generated.probeFailures`
and leaves its table empty, of which `shipped_orders_ok` would hold trivially -/
theorem probes_ok : ¬ ("mongo" ∈ Generated.probeFailures) ∧ ¬ ("sqlOrders" ∈ Generated.probeFailures) := by decide

end Vakt.C18
