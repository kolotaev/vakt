import Model.Migration
/-! `Migration.loop` decides inline, by a `match` on the direction, whether a migration is gated and what running it does; here the
two get names (`gatedB`, `applyStep`) and `loop_cons` restates one iteration in them.  From `loop_cons`: an unfaulted request is a
fold of gated steps (`loop_none`, `request_none`), a request that raised is that fold over a prefix followed by one `broken` step
(`loop_raised`). -/
namespace Vakt.Migration

theorem mem_insertSorted {x y : Nat} {s : List Nat} : x ∈ insertSorted y s ↔ x = y ∨ x ∈ s := by
  induction s with
  | nil => simp [insertSorted]
  | cons b u ih =>
    simp only [insertSorted]
    split
    · exact List.mem_cons
    · simp only [List.mem_cons, ih]
      exact or_left_comm

theorem mem_sortAsc {x : Nat} {l : List Nat} : x ∈ sortAsc l ↔ x ∈ l := by
  induction l with
  | nil => simp [sortAsc]
  | cons a t ih => simp only [sortAsc, mem_insertSorted, ih, List.mem_cons]

theorem mem_select {orders : List Nat} {r : Req} {m : Nat} (h : m ∈ select orders r) : m ∈ orders := by
  unfold select at h
  split at h
  · exact (List.mem_filter.1 h).1
  · split at h
    · exact mem_sortAsc.1 h
    · exact mem_sortAsc.1 (List.mem_reverse.1 h)

/-- what later requests can observe of a state: the recorded version and the schema -/
def core (st : MState) : Nat × List Nat := (st.last, st.schema)

/-- the gate skips migration `n` at recorded version `last` -/
def dead (d : Dir) (n last : Nat) : Prop := match d with | .up => n ≤ last | .down => last < n

/-- the recorded version only moves in the direction of the request -/
def mono (d : Dir) (a b : Nat) : Prop := match d with | .up => a ≤ b | .down => b ≤ a

theorem mono_refl (d : Dir) (a : Nat) : mono d a a := by cases d <;> exact Nat.le_refl a

theorem mono_trans {d : Dir} {a b c : Nat} (h1 : mono d a b) (h2 : mono d b c) : mono d a c := by
  cases d
  · exact Nat.le_trans h1 h2
  · exact Nat.le_trans h2 h1

theorem dead_mono {d : Dir} {n a b : Nat} (h : dead d n a) (hm : mono d a b) : dead d n b := by
  cases d
  · exact Nat.le_trans h hm
  · exact Nat.lt_of_le_of_lt hm h

/-- the gate of `loop`: `m.order > last_applied()` in `up`, `m.order <= last_applied()` in `down` -/
def gatedB (d : Dir) (n last : Nat) : Bool := match d with | .up => decide (last < n) | .down => decide (n ≤ last)

theorem gatedB_false_iff (d : Dir) (n last : Nat) : gatedB d n last = false ↔ dead d n last := by
  cases d <;> simp [gatedB, dead]

/-- the state after a gated step that completed; `save_applied_number` records `n` after `up`, `n - 1` after `down` -/
def applyStep (d : Dir) (n : Nat) (st : MState) : MState :=
  { last := (match d with | .up => n | .down => n - 1),
    schema := (match d with | .up => addSchema n st.schema | .down => delSchema n st.schema),
    trace := st.trace ++ [(d, n)] }

theorem loop_cons (d : Dir) (f : Fault) (n : Nat) (rest : List Nat) (k : Nat) (st : MState) :
    loop d f (n :: rest) k st =
      if gatedB d n st.last = false then loop d f rest k st
      else if f = .body k then ({ st with trace := st.trace ++ [(d, n)] }, true)
      else if f = .save k then ({ (applyStep d n st) with last := st.last }, true)
      else loop d f rest (k + 1) (applyStep d n st) := by
  cases d <;>
    simp only [loop, Bool.not_eq_eq_eq_not, Bool.not_true, decide_eq_false_iff_not, Nat.not_lt, Nat.not_le, beq_iff_eq,
      gatedB, applyStep] <;> rfl

/-- a gated step breaks in its body (only the invocation is on record) or while recording the version (the schema effect is in
place, the version is not) -/
def broken (d : Dir) (n : Nat) (st st1 : MState) : Prop :=
  st1 = { st with trace := st.trace ++ [(d, n)] } ∨ st1 = { applyStep d n st with last := st.last }

theorem loop_cons_cases (d : Dir) (f : Fault) (n : Nat) (rest : List Nat) (k : Nat) (st : MState) :
    (gatedB d n st.last = false ∧ loop d f (n :: rest) k st = loop d f rest k st) ∨
    (gatedB d n st.last = true ∧
      ((∃ st1, broken d n st st1 ∧ loop d f (n :: rest) k st = (st1, true)) ∨
       loop d f (n :: rest) k st = loop d f rest (k + 1) (applyStep d n st))) := by
  rw [loop_cons]
  cases hg : gatedB d n st.last
  · exact .inl ⟨rfl, if_pos rfl⟩
  · refine .inr ⟨rfl, ?_⟩
    rw [if_neg Bool.noConfusion]
    by_cases hb : f = .body k
    · exact .inl ⟨_, .inl rfl, if_pos hb⟩
    · rw [if_neg hb]
      by_cases hs : f = .save k
      · exact .inl ⟨_, .inr rfl, if_pos hs⟩
      · exact .inr (if_neg hs)

/-- one migration of an unfaulted request -/
def stepG (d : Dir) (st : MState) (n : Nat) : MState := if gatedB d n st.last = false then st else applyStep d n st

theorem loop_none (d : Dir) (ms : List Nat) : ∀ k st, loop d .none ms k st = (ms.foldl (stepG d) st, false) := by
  induction ms with
  | nil => intro k st; rfl
  | cons n rest ih =>
    intro k st
    rw [loop_cons]
    simp only [reduceCtorEq, ↓reduceIte, List.foldl_cons, stepG]
    split <;> exact ih _ _

theorem request_none (orders : List Nat) (st : MState) (r : Req) :
    request orders st r .none = ((select orders r).foldl (stepG r.dir) st, false) :=
  loop_none r.dir (select orders r) 0 st

theorem stepG_core (d : Dir) (n : Nat) {st st' : MState} (h : core st = core st') :
    core (stepG d st n) = core (stepG d st' n) := by
  obtain ⟨l, s, t⟩ := st
  obtain ⟨l', s', t'⟩ := st'
  cases h
  simp only [stepG]
  split <;> rfl

theorem fold_core (d : Dir) (ms : List Nat) : ∀ {st st' : MState}, core st = core st' →
    core (ms.foldl (stepG d) st) = core (ms.foldl (stepG d) st') := by
  induction ms with
  | nil => exact id
  | cons n rest ih => exact fun h => ih (stepG_core d n h)

theorem stepG_dead (d : Dir) (n : Nat) (st : MState) (hn : 0 < n) :
    mono d st.last (stepG d st n).last ∧ dead d n (stepG d st n).last := by
  simp only [stepG]
  split
  · rename_i hg
    exact ⟨mono_refl d _, (gatedB_false_iff d n st.last).1 hg⟩
  · rename_i hg
    cases d <;> simp only [gatedB, decide_eq_false_iff_not] at hg <;> simp only [mono, dead, applyStep] <;> omega

theorem fold_dead (d : Dir) (ms : List Nat) (hpos : ∀ m ∈ ms, 0 < m) : ∀ st,
    mono d st.last (ms.foldl (stepG d) st).last ∧ ∀ m ∈ ms, dead d m (ms.foldl (stepG d) st).last := by
  induction ms with
  | nil => exact fun st => ⟨mono_refl d _, fun m hm => nomatch hm⟩
  | cons n rest ih =>
    intro st
    obtain ⟨h1, h2⟩ := stepG_dead d n st (hpos n (List.mem_cons_self ..))
    obtain ⟨h3, h4⟩ := ih (fun m hm => hpos m (List.mem_cons_of_mem _ hm)) (stepG d st n)
    refine ⟨mono_trans h1 h3, fun m hm => ?_⟩
    rcases List.mem_cons.1 hm with rfl | hm
    · exact dead_mono h2 h3
    · exact h4 m hm

theorem fold_all_dead (d : Dir) (ms : List Nat) (st : MState) (h : ∀ m ∈ ms, dead d m st.last) :
    ms.foldl (stepG d) st = st := by
  induction ms with
  | nil => rfl
  | cons n rest ih =>
    have : stepG d st n = st := if_pos ((gatedB_false_iff d n st.last).2 (h n (List.mem_cons_self ..)))
    rw [List.foldl_cons, this]
    exact ih fun m hm => h m (List.mem_cons_of_mem _ hm)

theorem addSchema_idem (n : Nat) (s : List Nat) : addSchema n (addSchema n s) = addSchema n s := by
  have : (addSchema n s).contains n = true := by
    unfold addSchema
    split
    · assumption
    · exact List.contains_iff_mem.2 List.mem_concat_self
  exact if_pos this

theorem delSchema_idem (n : Nat) (s : List Nat) : delSchema n (delSchema n s) = delSchema n s := by
  simp [delSchema, List.filter_filter]

theorem loop_raised (d : Dir) (f : Fault) (ms : List Nat) : ∀ k st st1, loop d f ms k st = (st1, true) →
    ∃ pre n post, ms = pre ++ n :: post ∧ gatedB d n (pre.foldl (stepG d) st).last = true ∧
      broken d n (pre.foldl (stepG d) st) st1 := by
  induction ms with
  | nil => intro k st st1 h; cases h
  | cons n rest ih =>
    intro k st st1 h
    -- a migration the request got past, skipped or applied, joins the prefix
    have past : ∀ k' st', stepG d st n = st' → loop d f rest k' st' = (st1, true) →
        ∃ pre m post, n :: rest = pre ++ m :: post ∧ gatedB d m (pre.foldl (stepG d) st).last = true ∧
          broken d m (pre.foldl (stepG d) st) st1 := fun k' st' e h => by
      obtain ⟨pre, m, post, rfl, h1, h2⟩ := ih k' st' st1 h
      exact ⟨n :: pre, m, post, rfl, by rwa [List.foldl_cons, e], by rwa [List.foldl_cons, e]⟩
    rcases loop_cons_cases d f n rest k st with ⟨hg, e⟩ | ⟨hg, ⟨st', hb, e⟩ | e⟩ <;> rw [e] at h
    · exact past k st (if_pos hg) h
    · cases h; exact ⟨[], n, rest, rfl, hg, hb⟩
    · exact past _ _ (by rw [stepG, hg]; rfl) h

/-- resuming: a request interrupted by a fault (in a step body or while recording the version),
then repeated without fault, ends in the same version and schema as the request run without fault -/
theorem loop_resume (d : Dir) (ms : List Nat) (hpos : ∀ m ∈ ms, 0 < m) : ∀ (f : Fault) k st st1,
    loop d f ms k st = (st1, true) →
    mono d st.last st1.last ∧
    core (loop d .none ms 0 st1).1 = core (loop d .none ms 0 st).1 := by
  intro f k st st1 h
  obtain ⟨pre, n, post, rfl, hg, hb⟩ := loop_raised d f ms k st st1 h
  -- the prefix that ran is dead at the recorded version, so the retry goes straight to the broken step;
  -- redoing the schema effect of that step changes nothing
  obtain ⟨hmono, hdead⟩ := fold_dead d pre (fun m hm => hpos m (List.mem_append_left _ hm)) st
  rw [loop_none, loop_none, List.foldl_append, List.foldl_append, List.foldl_cons, List.foldl_cons]
  generalize pre.foldl (stepG d) st = s at hg hb hdead hmono
  have hl : st1.last = s.last := by rcases hb with rfl | rfl <;> rfl
  refine ⟨hl ▸ hmono, ?_⟩
  rw [fold_all_dead d pre st1 (hl ▸ hdead)]
  apply fold_core
  have e : ∀ t : MState, t.last = s.last → stepG d t n = applyStep d n t := fun t ht => by rw [stepG, ht, hg]; rfl
  rw [e st1 hl, e s rfl]
  rcases hb with rfl | rfl
  · rfl
  · cases d <;> simp [core, applyStep, addSchema_idem, delSchema_idem]

/-- strictly increasing above `lo` -/
def chainUp (lo : Nat) : List Nat → Prop
  | [] => True
  | n :: r => lo < n ∧ chainUp n r

/-- every element at or below the running bound, which drops to `n - 1` after `n` -/
def chainDown (hi : Nat) : List Nat → Prop
  | [] => True
  | n :: r => n ≤ hi ∧ chainDown (n - 1) r

def chain (d : Dir) (bound : Nat) (l : List Nat) : Prop :=
  match d with | .up => chainUp bound l | .down => chainDown bound l

theorem chain_nil (d : Dir) (bound : Nat) : chain d bound [] := by cases d <;> trivial

/-- the chain conditions are the gate, at the version each step leaves behind -/
theorem chain_cons (d : Dir) (bound n : Nat) (l : List Nat) (st : MState) :
    chain d bound (n :: l) ↔ gatedB d n bound = true ∧ chain d (applyStep d n st).last l := by
  cases d <;> simp only [chain, chainUp, chainDown, gatedB, applyStep, decide_eq_true_eq]

/-- the invocations of one request are all in its direction, each gated by the version recorded at that moment -/
theorem loop_trace (d : Dir) (f : Fault) (ms : List Nat) : ∀ k st,
    ∃ new : List Nat, (loop d f ms k st).1.trace = st.trace ++ new.map (fun n => (d, n)) ∧ chain d st.last new ∧
      (∀ n ∈ new, n ∈ ms) := by
  induction ms with
  | nil => intro k st; exact ⟨[], (List.append_nil _).symm, chain_nil d _, fun _ h => nomatch h⟩
  | cons n rest ih =>
    intro k st
    rcases loop_cons_cases d f n rest k st with ⟨_, e⟩ | ⟨hg, ⟨st', hb, e⟩ | e⟩ <;> rw [e]
    · obtain ⟨new, h1, h2, h3⟩ := ih k st
      exact ⟨new, h1, h2, fun m hm => List.mem_cons_of_mem _ (h3 m hm)⟩
    · -- a step that breaks, either way, leaves its invocation on record and ends the request
      have ht : st'.trace = st.trace ++ [(d, n)] := by rcases hb with rfl | rfl <;> rfl
      exact ⟨[n], ht, (chain_cons d _ n [] st).2 ⟨hg, chain_nil d _⟩, fun m hm => List.mem_singleton.1 hm ▸ List.mem_cons_self ..⟩
    · obtain ⟨new, h1, h2, h3⟩ := ih (k + 1) (applyStep d n st)
      refine ⟨n :: new, ?_, (chain_cons d _ n new st).2 ⟨hg, h2⟩, fun m hm => ?_⟩
      · rw [h1]; exact List.append_assoc st.trace [(d, n)] _
      · exact (List.mem_cons.1 hm).elim (fun e => e ▸ List.mem_cons_self ..) fun hm => List.mem_cons_of_mem _ (h3 m hm)

end Vakt.Migration
