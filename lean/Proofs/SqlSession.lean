import Model.SqlSession
import Proofs.Store
/-! On a session with nothing pending (`fresh` of what is committed) a mutation is the abstract `Store.step sqlCfg`, published:
however it ends - commit, rollback, or before anything was staged - the view and the committed state are again the same. -/
namespace Vakt.SqlSession
open Vakt.Store

theorem step_fresh (c : St) (op : Op) (hm : isMut op = true) :
    SqlSession.step (fresh c) op = (fresh (Store.step sqlCfg c op).1, (Store.step sqlCfg c op).2) := by
  cases op with
  | add u p ok =>
    cases ok
    · rfl
    · cases hl : lookup u c with
      | none => simp [SqlSession.step, step_add_absent _ _ _ _ hl, fresh, hl, commit, stage]
      | some _ => simp [SqlSession.step, step_add_present _ _ _ _ hl, fresh, hl, rollback, stage]
  | update u p ok =>
    cases ok <;> cases hl : lookup u c <;>
      simp [SqlSession.step, step_update_true, step_update_false, replace_absent, sqlCfg, fresh, hl, commit, rollback, stage]
  | delete u => rfl
  | fault => rfl
  | get _ | getAll _ _ | retrieveAll _ => cases hm

theorem run_fresh (ops : List Op) (hm : ∀ op ∈ ops, isMut op = true) (c : St) :
    SqlSession.run (fresh c) ops = (fresh (Store.run sqlCfg c ops).1, (Store.run sqlCfg c ops).2) := by
  induction ops generalizing c with
  | nil => rfl
  | cons op rest ih =>
    simp only [SqlSession.run, Store.run, step_fresh c op (hm op List.mem_cons_self),
      ih (fun o ho => hm o (List.mem_cons_of_mem _ ho))]

theorem clean_eq_fresh {s : Sess} (hc : Clean s) : s = fresh s.committed := by
  obtain ⟨c, v, d⟩ := s
  obtain ⟨rfl, rfl⟩ : d = false ∧ v = c := hc
  rfl

end Vakt.SqlSession
