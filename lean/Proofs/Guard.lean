import Model.Guard
import Proofs.PyVal
/-! The generic guard: the filtering comprehension completes iff no policy raises, and then yields the matching policies in order;
with the three outcomes on those this gives the unconditional description of an allow answer (`decide_eq_true_iff`), of which the
C01 / C02 / C17 statements are instances. -/
namespace Vakt
open PyVal

def NoRaise (m : Policy → R) (ps : List Policy) : Prop := ∀ p ∈ ps, ∃ b, m p = .ok b

theorem noRaise_cons (m : Policy → R) (p : Policy) (ps : List Policy) :
    NoRaise m (p :: ps) ↔ (∃ b, m p = .ok b) ∧ NoRaise m ps := List.forall_mem_cons

theorem filterM_eq_ok_iff (m : Policy → R) (ps fl : List Policy) :
    filterM m ps = .ok fl ↔ NoRaise m ps ∧ fl = ps.filter fun p => isOkTrue (m p) := by
  induction ps generalizing fl with
  | nil => simp [filterM, NoRaise, eq_comm]
  | cons p ps ih =>
    rw [filterM, noRaise_cons, List.filter_cons]
    cases m p with
    | error e => simp
    | ok b =>
      cases hf : filterM m ps with
      | error e =>
        have hr : ¬ NoRaise m ps := fun h => nomatch hf.symm.trans ((ih _).2 ⟨h, rfl⟩)
        simp [hr]
      | ok rest =>
        obtain ⟨hr, rfl⟩ := (ih rest).1 hf
        cases b <;> simp [hr, isOkTrue, eq_comm]

/-- `check_policies_allow` on the matching policies -/
theorem decideFiltered_cases (fl : List Policy) :
    (fl = [] ∧ decideFiltered fl = (false, ⟨false, [], []⟩)) ∨
    (∃ p ∈ fl, p.allowAccess = false ∧ decideFiltered fl = (false, ⟨false, fl, [p]⟩)) ∨
    (fl ≠ [] ∧ (∀ p ∈ fl, p.allowAccess = true) ∧ decideFiltered fl = (true, ⟨true, fl, fl⟩)) := by
  cases fl with
  | nil => exact .inl ⟨rfl, rfl⟩
  | cons a t =>
    refine .inr ?_
    unfold decideFiltered
    cases hf : (a :: t).find? (fun p => !p.allowAccess) with
    | some p => exact .inl ⟨p, List.mem_of_find?_eq_some hf, by simpa using List.find?_some hf, rfl⟩
    | none => exact .inr ⟨List.cons_ne_nil _ _, fun p hp => by simpa using List.find?_eq_none.1 hf p hp, rfl⟩

theorem decideFiltered_true_iff (fl : List Policy) :
    (decideFiltered fl).1 = true ↔ fl ≠ [] ∧ ∀ p ∈ fl, p.allowAccess = true := by
  rcases decideFiltered_cases fl with ⟨rfl, h⟩ | ⟨p, hp, ha, h⟩ | ⟨hne, hall, h⟩ <;> rw [h]
  · simp
  · exact ⟨fun h => (nomatch h), fun h => (nomatch ha.symm.trans (h.2 p hp))⟩
  · exact ⟨fun _ => ⟨hne, hall⟩, fun _ => rfl⟩

theorem decideCore_eq_ok_iff (m : Policy → R) (ps : List Policy) (r : Bool × AuditRec) :
    decideCore m ps = .ok r ↔ NoRaise m ps ∧ r = decideFiltered (ps.filter fun p => isOkTrue (m p)) := by
  have : decideCore m ps = .ok r ↔ ∃ fl, filterM m ps = .ok fl ∧ r = decideFiltered fl := by
    unfold decideCore; cases filterM m ps <;> simp [eq_comm]
  simp [this, filterM_eq_ok_iff, and_assoc]

theorem decideAns_items_eq_ok_iff (m : Policy → R) (xs : List Policy) (fa : Option Nat) (r : Bool × AuditRec) :
    decideAns m (.items xs fa) = .ok r ↔ (∀ n, fa = some n → xs.length < n) ∧ decideCore m xs = .ok r := by
  cases fa with
  | none => simp [decideAns]
  | some n =>
    by_cases hn : n ≤ xs.length
    · cases hf : filterM m (xs.take n) <;> simp [decideAns, hn, hf, Nat.not_lt.2 hn]
    · simp [decideAns, hn, Nat.not_le.1 hn]

theorem isAllowed_eq_true_iff (m : Policy → R) (ans : StoreAns) :
    isAllowed m ans = true ↔ ∃ r, decideAns m ans = .ok r ∧ r.1 = true := by
  unfold isAllowed
  cases decideAns m ans <;> simp

theorem decide_eq_true_iff (m : Policy → R) (ps : List Policy) :
    decide m ps = true ↔
      NoRaise m ps ∧ (∃ p ∈ ps, m p = .ok true) ∧ ∀ p ∈ ps, m p = .ok true → p.allowAccess = true := by
  have h : decide m ps = true ↔ NoRaise m ps ∧ (decideFiltered (ps.filter fun p => isOkTrue (m p))).1 = true := by
    rw [decide, isAllowed_eq_true_iff]
    simp only [decideAns, decideCore_eq_ok_iff, and_assoc, exists_and_left, exists_eq_left]
  rw [h, decideFiltered_true_iff]
  -- "not empty, all allow" of `ps.filter ..`, read back as membership in `ps`
  simp only [ne_eq, List.filter_eq_nil_iff, List.mem_filter, isOkTrue_iff, Classical.not_forall, Decidable.not_not, and_imp,
    exists_prop]

theorem isAllowed_items (m : Policy → R) (xs : List Policy) (fa : Option Nat) :
    isAllowed m (.items xs fa) = true ↔ (∀ n, fa = some n → xs.length < n) ∧ decide m xs = true := by
  -- `decide m xs` is the same call without a fault position
  simp only [decide, isAllowed_eq_true_iff, decideAns_items_eq_ok_iff, reduceCtorEq, false_implies, implies_true,
    true_and, and_assoc, exists_and_left]

theorem decide_iff (m : Policy → R) (ps : List Policy) (h : NoRaise m ps) :
    decide m ps = true ↔
      (∃ p ∈ ps, m p = .ok true) ∧ (∀ p ∈ ps, m p = .ok true → p.allowAccess = true) :=
  (decide_eq_true_iff m ps).trans (and_iff_right h)

theorem decide_raise (m : Policy → R) (ps : List Policy) (p : Policy) (hp : p ∈ ps)
    (e : PyErr) (he : m p = .error e) : decide m ps = false :=
  Bool.eq_false_iff.2 fun hd => by
    obtain ⟨b, hb⟩ := ((decide_eq_true_iff m ps).1 hd).1 p hp
    cases he.symm.trans hb

theorem decide_veto (m : Policy → R) (ps : List Policy) (p : Policy)
    (hp : p ∈ ps) (hm : m p = .ok true) (he : p.allowAccess = false) : decide m ps = false :=
  Bool.eq_false_iff.2 fun hd => by
    obtain ⟨_, _, hall⟩ := (decide_eq_true_iff m ps).1 hd
    exact Bool.false_ne_true (he.symm.trans (hall p hp hm))

theorem decide_no_match (m : Policy → R) (ps : List Policy) (h : ∀ p ∈ ps, m p = .ok false) :
    decide m ps = false :=
  Bool.eq_false_iff.2 fun hd => by
    obtain ⟨p, hp, hm⟩ := ((decide_eq_true_iff m ps).1 hd).2.1
    cases (h p hp).symm.trans hm

theorem decide_congr_filterM {m : Policy → R} {ps ps' : List Policy} (h : filterM m ps = filterM m ps') :
    decide m ps = decide m ps' := by
  simp only [decide, isAllowed, decideAns, decideCore, h]

/-- the action test stands first in the comprehension's condition -/
theorem guardMatch_of_actions_false (k : CheckerKind) (q : Inquiry) (p : Policy)
    (h : fits k p .actions q.action q = .ok false) : guardMatch k q p = .ok false := by
  simp only [guardMatch, matchP, h, andThen]

/-- `hq` names the inquiry's three values, so that a caller can state the field facts for values of the form it
knows (`.str _`) -/
theorem guardMatch_false {k : CheckerKind} {q : Inquiry} {p : Policy} {a s r : PyVal}
    (hq : q.action = a ∧ q.subject = s ∧ q.resource = r)
    (ta : ∃ b, fits k p .actions a q = .ok b) (ts : ∃ b, fits k p .subjects s q = .ok b)
    (tr : ∃ b, fits k p .resources r q = .ok b)
    (h : fits k p .actions a q = .ok true → fits k p .subjects s q = .ok true →
      fits k p .resources r q = .ok true → False) : guardMatch k q p = .ok false := by
  obtain ⟨ba, ha⟩ := ta; obtain ⟨bs, hs⟩ := ts; obtain ⟨br, hr⟩ := tr
  simp only [guardMatch, matchP, hq.1, hq.2.1, hq.2.2, ha, hs, hr]
  cases ba
  · rfl
  · cases bs
    · rfl
    · cases br
      · rfl
      · exact (h ha hs hr).elim

/-- the decision depends only on which policies are members, not on order or multiplicity -/
theorem decide_mem_congr (m : Policy → R) (ps ps' : List Policy) (hmem : ∀ p, p ∈ ps ↔ p ∈ ps') :
    decide m ps = decide m ps' :=
  Bool.eq_iff_iff.2 (by simp only [decide_eq_true_iff, NoRaise, hmem])

theorem exists_mem_map {α β : Type} (f : α → β) (l : List α) (P : β → Prop) :
    (∃ b ∈ l.map f, P b) ↔ ∃ a ∈ l, P (f a) :=
  ⟨fun ⟨_, hb, hp⟩ => by obtain ⟨a, ha, rfl⟩ := List.mem_map.1 hb; exact ⟨a, ha, hp⟩,
   fun ⟨a, ha, hp⟩ => ⟨f a, List.mem_map.2 ⟨a, ha, rfl⟩, hp⟩⟩

/-- the decision depends on the policies only through their match result and allow flag -/
theorem decide_map_congr (m m' : Policy → R) (f : Policy → Policy) (ps : List Policy)
    (hm : ∀ p ∈ ps, m' (f p) = m p) (ha : ∀ p ∈ ps, (f p).allowAccess = p.allowAccess) :
    decide m' (ps.map f) = decide m ps :=
  Bool.eq_iff_iff.2 (by
    -- every clause is bounded by membership in `ps`, under which `hm` and `ha` rewrite
    have he : (∃ p ∈ ps, m' (f p) = .ok true) ↔ ∃ p ∈ ps, m p = .ok true :=
      exists_congr fun p => and_congr_right fun hp => by rw [hm p hp]
    simp +contextual only [decide_eq_true_iff, NoRaise, List.forall_mem_map, exists_mem_map, hm, ha, he])

end Vakt
