import Model.Prefilter
import Proofs.Regex
import Proofs.PyVal
/-! The four checkers by their characterising equations: the regular expression of a compiled element denotes "the value splits
into the literals and the words of the segments" (`PiecesMatch`); the element loops of the other checkers are `List.any` / `List.all`
(over `Prefilter.strElems`, the string elements of a field, which `Model/Prefilter.lean` defines: hence that import). -/
namespace Vakt
open Re PyVal TagParser

/-- what one piece contributes: a literal is itself, a segment is any word of its regular expression -/
def PieceWord : Piece → List Char → Prop
  | .lit l, u => u = l
  | .seg x, u => ∃ rx rest, parsePattern x = .ok rx rest ∧ Lang rx u

/-- the value splits, in order, into words contributed by the pieces, nothing left over -/
inductive PiecesMatch : List Piece → List Char → Prop
  | nil : PiecesMatch [] []
  | cons {p : Piece} {ps : List Piece} {u v : List Char} :
      PieceWord p u → PiecesMatch ps v → PiecesMatch (p :: ps) (u ++ v)

theorem piecesMatch_cons_iff (p : Piece) (ps : List Piece) (w : List Char) :
    PiecesMatch (p :: ps) w ↔ ∃ u v, w = u ++ v ∧ PieceWord p u ∧ PiecesMatch ps v := by
  constructor
  · intro h; cases h with | cons h1 h2 => exact ⟨_, _, rfl, h1, h2⟩
  · rintro ⟨u, v, rfl, h1, h2⟩; exact PiecesMatch.cons h1 h2

theorem piecesRe_cons_ok {p : Piece} {ps : List Piece} {r : Re} {rest : List Char}
    (h : piecesRe (p :: ps) = .ok r rest) :
    ∃ a r' rest', piecesRe ps = .ok r' rest' ∧ r = .cat a r' ∧ ∀ u, Lang a u ↔ PieceWord p u := by
  cases p with
  | lit l =>
    rw [piecesRe] at h
    cases hp : piecesRe ps with
    | ok r' rest' => rw [hp] at h; cases h; exact ⟨_, _, _, rfl, rfl, lang_lit_iff l⟩
    | _ => rw [hp] at h; cases h
  | seg x =>
    rw [piecesRe] at h
    cases hx : parsePattern x with
    | ok a ra =>
      rw [hx] at h
      cases hp : piecesRe ps with
      | ok r' rest' =>
        rw [hp] at h; cases h
        exact ⟨a, _, _, rfl, rfl, fun u =>
          ⟨fun hu => ⟨a, ra, hx, hu⟩, fun ⟨_, _, e, hu⟩ => by cases hx.symm.trans e; exact hu⟩⟩
      | _ => rw [hp] at h; cases h
    | _ => rw [hx] at h; cases h

theorem piecesRe_lang (ps : List Piece) :
    ∀ r rest, piecesRe ps = .ok r rest → ∀ w, Lang r w ↔ PiecesMatch ps w := by
  induction ps with
  | nil =>
    intro r rest h w
    cases h
    rw [lang_eps_iff]
    exact ⟨fun h => h ▸ .nil, fun h => by cases h; rfl⟩
  | cons p ps ih =>
    intro r rest h w
    obtain ⟨a, r', rest', hp, rfl, ha⟩ := piecesRe_cons_ok h
    simp only [piecesMatch_cons_iff, lang_cat_iff, ha, ih r' rest' hp]

theorem regexElem_untagged {s t : Char} {e : List Char} (htag : tagged s t e = false) (what : PyVal) :
    regexElem s t e what = if pyEq (.str e) what then .done (.ok true) else .next := by
  simp only [regexElem, htag, Bool.not_false, ↓reduceIte]

theorem regexElem_unbalanced {s t : Char} {e : List Char} (htag : tagged s t e = true)
    (h : scan s t e = Option.none) (what : PyVal) : regexElem s t e what = .done (.ok false) := by
  simp only [regexElem, htag, Bool.not_true, Bool.false_eq_true, ↓reduceIte, h]

theorem regexElem_compiled {s t : Char} {e : List Char} {ps : List Piece} {r : Re} {rest : List Char}
    (htag : tagged s t e = true) (hscan : scan s t e = some ps) (hre : piecesRe ps = .ok r rest)
    (w : List Char) : regexElem s t e (.str w) = if r.accepts w then .done (.ok true) else .next := by
  simp only [regexElem, htag, Bool.not_true, Bool.false_eq_true, ↓reduceIte, hscan, hre]

/-- `h`: no string element raises (of the outcomes of `regexElem`, `.done (.error _)` is excluded).  Then the loop answers, and
answers `true` only through an element that ended the scan with `true`. -/
theorem regexLoop_cases (s t : Char) (w : PyVal) (es : List Elem)
    (h : ∀ e, Elem.str e ∈ es → regexElem s t e w = .done (.ok true) ∨ regexElem s t e w = .done (.ok false) ∨
      regexElem s t e w = .next) :
    (regexLoop s t w es = .ok true ∧ ∃ e, Elem.str e ∈ es ∧ regexElem s t e w = .done (.ok true)) ∨
    regexLoop s t w es = .ok false := by
  induction es with
  | nil => exact Or.inr rfl
  | cons x rest ih =>
    have ih' := ih fun e he => h e (List.mem_cons_of_mem _ he)
    cases x with
    | str e =>
      simp only [regexLoop]
      rcases h e List.mem_cons_self with hd | hd | hd <;> rw [hd]
      · exact Or.inl ⟨rfl, e, List.mem_cons_self, hd⟩
      · exact Or.inr rfl
      · exact ih'.imp_left fun ⟨h1, e', he', h2⟩ => ⟨h1, e', List.mem_cons_of_mem _ he', h2⟩
    | rule _ | attrs _ => exact ih'.imp_left fun ⟨h1, e', he', h2⟩ => ⟨h1, e', List.mem_cons_of_mem _ he', h2⟩

theorem inner_eq_cases {s t : Char} (hst : s ≠ t) (e w : List Char) (h : inner s t e = w) :
    e = w ∨ e = s :: (w ++ [t]) := by
  cases e with
  | nil => exact .inl h
  | cons c cs =>
    simp only [inner] at h
    split at h
    · rename_i hc
      simp only [Bool.and_eq_true, beq_iff_eq] at hc
      obtain ⟨rfl, hl⟩ := hc
      -- the element ends in the end tag, and that is not its first character
      obtain ⟨ys, hy⟩ := List.getLast?_eq_some_iff.1 hl
      cases ys with
      | nil => cases hy; exact absurd rfl hst
      | cons y ys =>
        rw [List.cons_append, List.cons.injEq] at hy
        obtain ⟨rfl, rfl⟩ := hy
        rw [← h, List.drop_one, List.tail_cons, List.dropLast_concat]
        exact .inr rfl
    · exact .inl h

theorem mem_strElems (es : List Elem) (e : List Char) : e ∈ Prefilter.strElems es ↔ Elem.str e ∈ es := by
  rw [Prefilter.strElems, List.mem_filterMap]
  constructor
  · rintro ⟨x, hx, h⟩; cases x <;> cases h; exact hx
  · exact fun h => ⟨_, h, rfl⟩

theorem strElems_cons_str (e : List Char) (es : List Elem) :
    Prefilter.strElems (.str e :: es) = e :: Prefilter.strElems es := rfl

theorem exactLoop_str (stag etag : Char) (v : List Char) (es : List Elem) :
    exactLoop stag etag (.str v) es = .ok ((Prefilter.strElems es).any fun e => v == inner stag etag e) := by
  induction es with
  | nil => rfl
  | cons x rest ih =>
    cases x with
    | str e =>
      rw [exactLoop, ih, pyEq_str, strElems_cons_str, List.any_cons]
      cases v == inner stag etag e <;> rfl
    | _ => exact ih

theorem fuzzyLoop_str (stag etag : Char) (v : List Char) (es : List Elem) :
    fuzzyLoop stag etag (.str v) es = .ok ((Prefilter.strElems es).any fun e => isInfix v (inner stag etag e)) := by
  induction es with
  | nil => rfl
  | cons x rest ih =>
    cases x with
    | str e =>
      rw [fuzzyLoop, ih, strElems_cons_str, List.any_cons]
      cases isInfix v (inner stag etag e) <;> rfl
    | _ => exact ih

theorem checkSatisfied_iff (a : AttrVal) (w : PyVal) (q : Option Inquiry) :
    checkSatisfied a w q = true ↔ ∃ r, a = .rule r ∧ r.eval w q = .ok true := by
  cases a with
  | junk => simp [checkSatisfied]
  | rule r =>
    simp only [checkSatisfied]
    cases h : r.eval w q with
    | error e => simp [h]
    | ok b => cases b <;> simp [h]

/-- `acc` only matters for `{}` -/
theorem attrsLoop_cons (what : PyVal) (q : Option Inquiry) (kv : List Char × AttrVal)
    (rest : List (List Char × AttrVal)) (acc : Bool) :
    attrsLoop what q (kv :: rest) acc = (kv :: rest).all fun kv => attrStep what q kv.1 kv.2 := by
  induction rest generalizing kv acc with
  | nil => cases h : attrStep what q kv.1 kv.2 <;> simp [attrsLoop, h]
  | cons kv' rest ih => rw [attrsLoop, ih, List.all_cons]; cases h : attrStep what q kv.1 kv.2 <;> simp [h]

theorem rulesLoop_eq_any (what : PyVal) (q : Option Inquiry) (es : List Elem) :
    rulesLoop what q es = es.any (rulesElem what q) := by
  induction es with
  | nil => rfl
  | cons e rest ih => rw [rulesLoop, ih, List.any_cons]; cases rulesElem what q e <;> rfl

theorem stringLoops_of_no_str (s t : Char) (w : PyVal) (es : List Elem) (h : ∀ e ∈ es, e.isStr = false) :
    regexLoop s t w es = .ok false ∧ exactLoop s t w es = .ok false ∧ fuzzyLoop s t w es = .ok false := by
  induction es with
  | nil => exact ⟨rfl, rfl, rfl⟩
  | cons x rest ih =>
    have ih' := ih fun e he => h e (List.mem_cons_of_mem _ he)
    cases x with
    | str e => cases h _ List.mem_cons_self
    | rule r => exact ih'
    | attrs kvs => exact ih'

theorem rulesLoop_of_all_str (what : PyVal) (q : Option Inquiry) (es : List Elem) (h : ∀ e ∈ es, e.isStr = true) :
    rulesLoop what q es = false := by
  rw [rulesLoop_eq_any, List.any_eq_false]
  intro e he hr
  cases e with
  | str _ => cases hr
  | rule _ => cases h _ he
  | attrs _ => cases h _ he

theorem fits_other_type (k : CheckerKind) (p : Policy) (f : Field) (w : PyVal) (q : Inquiry) :
    (k ≠ .rules → (∀ e ∈ p.field f, e.isStr = false) → fits k p f w q = .ok false) ∧
    (k = .rules → (∀ e ∈ p.field f, e.isStr = true) → fits k p f w q = .ok false) := by
  refine ⟨fun hk h => ?_, fun hk h => hk ▸ congrArg Except.ok (rulesLoop_of_all_str w (some q) _ h)⟩
  have := stringLoops_of_no_str p.stag p.etag w (p.field f) h
  cases k with
  | rules => exact absurd rfl hk
  | regex => exact this.1
  | exact => exact this.2.1
  | fuzzy => exact this.2.2

end Vakt
