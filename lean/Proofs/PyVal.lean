import Model.PyVal
/-! Python values through the equations proofs use instead of unfolding `pyEq` / `pyCmp`: equality against a string, `isInfix` as
`<:+:`, the comparisons of two integers; and the two views of a result of type `R`: `isOkTrue` ("returned `True`", the condition of
the guard's comprehension) and `Except.isOk`. -/
namespace Vakt
open PyVal

theorem pyEq_str (a b : List Char) : pyEq (.str a) (.str b) = (a == b) := rfl

theorem pyEq_str_left (s : List Char) (x : PyVal) : pyEq (.str s) x = true ↔ x = .str s := by
  cases x with
  | str t => rw [pyEq_str, beq_iff_eq, str.injEq]; exact eq_comm
  | _ => simp [pyEq]

theorem pyEq_str_right (x : PyVal) (s : List Char) : pyEq x (.str s) = true ↔ x = .str s := by
  cases x <;> simp [pyEq, asNum]

theorem pyEq_char (a b : Char) : pyEq (.str [a]) (.str [b]) = (a == b) := Bool.and_true _

theorem PyVal.isInfix_iff (a b : List Char) : isInfix a b = true ↔ a <:+: b := by
  induction b with
  | nil => cases a <;> simp [isInfix]
  | cons h t ih =>
    cases a with
    | nil => simp [isInfix]
    | cons x xs =>
      simp only [isInfix, Bool.or_eq_true, ih]
      rw [List.infix_cons_iff]
      simp [List.isPrefixOf_iff_prefix]

theorem isInfix_single (c : Char) (cs : List Char) : isInfix [c] cs = cs.contains c := by
  induction cs with
  | nil => rfl
  | cons h t ih =>
    simp only [isInfix, List.isPrefixOf, ih, List.contains_cons, Bool.and_true]

theorem pyEq_int (a b : Int) : pyEq (.int a) (.int b) = (a == b) := by
  simp [pyEq, asNum, numEq]

theorem pyCmp_int (a b : Int) : pyCmp (.int a) (.int b) = .ok (if a = b then .eq else if a < b then .lt else .gt) := by
  simp [pyCmp, asNum, numEq, numLt]

theorem pyLt_int (a b : Int) : pyLt (.int a) (.int b) = .ok (Decidable.decide (a < b)) := by
  rw [pyLt, pyCmp_int]
  by_cases h1 : a = b
  · simp [h1, Except.map]
  · by_cases h2 : a < b <;> simp [h1, h2, Except.map]

theorem pyGt_int (a b : Int) : pyGt (.int a) (.int b) = .ok (Decidable.decide (b < a)) := by
  rw [pyGt, pyCmp_int]
  by_cases h1 : a = b
  · simp [h1, Except.map]
  · by_cases h2 : a < b
    · simp [h1, h2, Except.map, Int.lt_asymm h2]
    · simp [h1, h2, Except.map, show b < a by omega]

theorem pyLe_int (a b : Int) : pyLe (.int a) (.int b) = .ok (Decidable.decide (a ≤ b)) := by
  rw [pyLe, pyCmp_int]
  by_cases h1 : a = b
  · simp [h1, Except.map]
  · by_cases h2 : a < b
    · simp [h1, h2, Except.map, Int.le_of_lt h2]
    · simp [h1, h2, Except.map, show ¬ a ≤ b by omega]

def isOkTrue : R → Bool
  | .ok true => true
  | _ => false

theorem isOkTrue_iff (r : R) : isOkTrue r = true ↔ r = .ok true := by
  cases r with
  | error e => simp [isOkTrue]
  | ok b => cases b <;> simp [isOkTrue]

theorem isOkTrue_ok (b : Bool) : isOkTrue (.ok b) = b := by cases b <;> rfl

theorem isOk_iff (x : R) : x.isOk = true ↔ ∃ b, x = .ok b := by
  cases x <;> simp [Except.isOk, Except.toBool]

theorem isOk_eq_false_iff (x : R) : x.isOk = false ↔ ∃ e, x = .error e := by
  cases x <;> simp [Except.isOk, Except.toBool]

end Vakt
