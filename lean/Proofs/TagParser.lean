import Model.TagParser
/-! The scanner implements the grammar `Lit (Seg Lit)*`, defined here (`Decomp`) independently of the scanner: what `scan` returns
follows the grammar and renders back to the element, and a rendered decomposition is scanned back to itself. -/
namespace Vakt.TagParser

/-- relative nesting depth after reading a segment body from depth `n`; `none` if it closes below 0 -/
def bodyLevel (s t : Char) : List Char → Nat → Option Nat
  | [], n => some n
  | c :: cs, n =>
    if c = s then bodyLevel s t cs (n + 1)
    else if c = t then (match n with | 0 => none | m + 1 => bodyLevel s t cs m)
    else bodyLevel s t cs n

def noTags (s t : Char) (l : List Char) : Prop := ∀ c ∈ l, c ≠ s ∧ c ≠ t

/-- literals without delimiters alternating with bodies whose nesting returns to 0 and never goes below it -/
inductive Decomp (s t : Char) : List Piece → Prop
  | last (l : List Char) : noTags s t l → Decomp s t [Piece.lit l]
  | cons (l x : List Char) (rest : List Piece) : noTags s t l → bodyLevel s t x 0 = some 0 →
      Decomp s t rest → Decomp s t (Piece.lit l :: Piece.seg x :: rest)

theorem bodyLevel_append (s t : Char) (a b : List Char) (n : Nat) :
    bodyLevel s t (a ++ b) n = (bodyLevel s t a n).bind (bodyLevel s t b) := by
  induction a generalizing n with
  | nil => simp [bodyLevel]
  | cons c cs ih =>
    simp only [List.cons_append, bodyLevel]
    split
    · exact ih _
    · split
      · cases n with
        | zero => simp
        | succ m => exact ih _
      · exact ih _

theorem render_append (s t : Char) (a b : List Piece) : render s t (a ++ b) = render s t a ++ render s t b := by
  induction a with
  | nil => simp [render]
  | cons p ps ih => cases p <;> simp [render, ih]

theorem noTags_snoc {s t : Char} {l : List Char} {c : Char} (h : noTags s t l) (h1 : c ≠ s) (h2 : c ≠ t) :
    noTags s t (l ++ [c]) := by
  intro x hx
  rcases List.mem_append.1 hx with hx | hx
  · exact h x hx
  · simp at hx; subst hx; exact ⟨h1, h2⟩

/-- inside a segment: scanner level `n + 1` is body depth `n`; `none` from `bodyLevel` means this `c` is the closing tag of the segment -/
theorem scanAux_seg (s t c : Char) (cs : List Char) (n : Nat) (cur : List Char) (acc : List Piece) :
    scanAux s t (c :: cs) (n + 1) cur acc =
      match bodyLevel s t [c] n with
      | some m => scanAux s t cs (m + 1) (cur ++ [c]) acc
      | none => scanAux s t cs 0 [] (acc ++ [Piece.seg cur]) := by
  rw [scanAux]
  unfold bodyLevel
  by_cases hs : c = s
  · rw [if_pos hs, if_pos hs]; rfl
  · rw [if_neg hs, if_neg hs]
    by_cases ht : c = t
    · rw [if_pos ht, if_pos ht]; cases n <;> rfl
    · rw [if_neg ht, if_neg ht]; rfl

theorem bodyLevel_single_none {s t c : Char} {n : Nat} (h : bodyLevel s t [c] n = none) : c = t ∧ n = 0 := by
  simp only [bodyLevel] at h
  split at h
  · cases h
  · split at h
    · cases n with
      | zero => exact ⟨‹_›, rfl⟩
      | succ m => cases h
    · cases h

/-- both scanner modes at once: what is still to come (`tail`) follows the grammar and re-assembles to the piece being read
followed by the unread input -/
theorem scanAux_sound (s t : Char) (e : List Char) :
    (∀ cur acc ps, noTags s t cur → scanAux s t e 0 cur acc = some ps →
        ∃ tail, ps = acc ++ tail ∧ Decomp s t tail ∧ render s t tail = cur ++ e) ∧
    (∀ n cur acc ps, bodyLevel s t cur 0 = some n → scanAux s t e (n + 1) cur acc = some ps →
        ∃ x tail, ps = acc ++ Piece.seg x :: tail ∧ bodyLevel s t x 0 = some 0 ∧ Decomp s t tail ∧
          x ++ t :: render s t tail = cur ++ e) := by
  induction e with
  | nil =>
    constructor
    · intro cur acc ps hc h
      simp only [scanAux, Option.some.injEq] at h
      exact ⟨[Piece.lit cur], h.symm, Decomp.last cur hc, by simp [render]⟩
    · intro n cur acc ps _ h
      simp [scanAux] at h
  | cons c cs ih =>
    obtain ⟨ih0, ih1⟩ := ih
    constructor
    · intro cur acc ps hc h
      simp only [scanAux] at h
      split at h
      · rename_i hcs
        obtain ⟨x, tail, hps, hx, hd, hr⟩ := ih1 0 [] _ ps rfl h
        exact ⟨Piece.lit cur :: Piece.seg x :: tail, by simp [hps], Decomp.cons cur x tail hc hx hd,
          by simp [render, hr, hcs]⟩
      · split at h
        · cases h
        · rename_i h1 h2
          obtain ⟨tail, hps, hd, hr⟩ := ih0 _ _ _ (noTags_snoc hc h1 h2) h
          exact ⟨tail, hps, hd, by simp [hr]⟩
    · intro n cur acc ps hb h
      rw [scanAux_seg] at h
      cases hc : bodyLevel s t [c] n with
      | some m =>
        rw [hc] at h
        obtain ⟨x, tail, hps, hx, hd, hr⟩ := ih1 m _ _ _ (by rw [bodyLevel_append, hb]; exact hc) h
        exact ⟨x, tail, hps, hx, hd, by simp [hr]⟩
      | none =>
        rw [hc] at h
        obtain ⟨rfl, rfl⟩ := bodyLevel_single_none hc
        obtain ⟨tail, hps, hd, hr⟩ := ih0 [] _ ps (fun _ hx => nomatch hx) h
        exact ⟨cur, tail, by simp [hps], hb, hd, by simp [hr]⟩

theorem scan_sound {s t : Char} {e : List Char} {ps : List Piece} (h : scan s t e = some ps) :
    Decomp s t ps ∧ render s t ps = e := by
  obtain ⟨tail, rfl, hd, hr⟩ := (scanAux_sound s t e).1 [] [] ps (fun _ hx => nomatch hx) h
  exact ⟨hd, hr⟩

/-- a balanced element that contains a delimiter contains both -/
theorem scan_tagged_contains {s t : Char} {e : List Char} {ps : List Piece}
    (hs : scan s t e = some ps) (ht : tagged s t e = true) : e.contains s = true ∧ e.contains t = true := by
  obtain ⟨hd, hr⟩ := scan_sound hs
  cases hd with
  | last l hl =>
    simp only [render, List.append_nil] at hr
    subst hr
    simp only [tagged, Bool.or_eq_true, List.contains_iff_mem] at ht
    rcases ht with h | h
    · exact absurd rfl (hl s h).1
    · exact absurd rfl (hl t h).2
  | cons l x rest hl hb hrest =>
    simp only [render] at hr
    subst hr
    constructor <;> simp

theorem scanAux_lit (s t : Char) (l rest : List Char) (cur : List Char) (acc : List Piece) (h : noTags s t l) :
    scanAux s t (l ++ rest) 0 cur acc = scanAux s t rest 0 (cur ++ l) acc := by
  induction l generalizing cur with
  | nil => simp
  | cons c cs ih =>
    have hc := h c (by simp)
    simp only [List.cons_append, scanAux, hc.1, hc.2, ↓reduceIte]
    rw [ih _ (fun x hx => h x (by simp [hx]))]
    simp

theorem scanAux_body (s t : Char) (x rest : List Char) :
    ∀ n m cur acc, bodyLevel s t x n = some m →
      scanAux s t (x ++ rest) (n + 1) cur acc = scanAux s t rest (m + 1) (cur ++ x) acc := by
  induction x with
  | nil => intro n m cur acc h; cases h; simp
  | cons c cs ih =>
    intro n m cur acc h
    rw [← List.singleton_append, bodyLevel_append] at h
    rw [List.cons_append, scanAux_seg]
    cases hc : bodyLevel s t [c] n with
    | none => rw [hc] at h; cases h
    | some k =>
      rw [hc] at h
      exact (ih k m _ acc h).trans (by rw [List.append_assoc]; rfl)

/-- a decomposition starts with a literal, which the scanner appends to the literal it is reading -/
theorem scanAux_complete (s t : Char) (hst : s ≠ t) (ps : List Piece) (hd : Decomp s t ps) :
    ∀ acc, ∃ l0 rest, ps = Piece.lit l0 :: rest ∧
      ∀ cur, scanAux s t (render s t ps) 0 cur acc = some (acc ++ Piece.lit (cur ++ l0) :: rest) := by
  induction hd with
  | last l hl =>
    intro acc
    refine ⟨l, [], rfl, fun cur => ?_⟩
    have := scanAux_lit s t l [] cur acc hl
    simp only [List.append_nil] at this
    simp [render, this, scanAux]
  | cons l x rest hl hx _ ih =>
    intro acc
    refine ⟨l, Piece.seg x :: rest, rfl, fun cur => ?_⟩
    simp only [render]
    rw [scanAux_lit s t l _ cur acc hl]
    simp only [List.cons_append, scanAux, ↓reduceIte]
    have hb := scanAux_body s t x (t :: render s t rest) 0 0 [] (acc ++ [Piece.lit (cur ++ l)]) hx
    rw [hb]
    simp only [scanAux, (Ne.symm hst), ↓reduceIte, List.nil_append]
    obtain ⟨l0, rest', hrest, hscan⟩ := ih (acc ++ [Piece.lit (cur ++ l)] ++ [Piece.seg x])
    rw [hscan [], hrest]
    simp

end Vakt.TagParser
