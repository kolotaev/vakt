import Model.RuleCodec
/-! `mapOpt f`, the all-or-nothing `map` through a partial function.  It is defined in `Model/RuleCodec.lean`, beside the codec that
decodes lists with it: hence that import and the namespace; the storage codecs and the C07 prefilters use it too. -/
namespace Vakt.RuleCodec

variable {α β : Type}

theorem mapOpt_cons_some {f : α → Option β} {x : α} {xs : List α} {ys : List β}
    (h : mapOpt f (x :: xs) = some ys) : ∃ y ys', f x = some y ∧ mapOpt f xs = some ys' ∧ ys = y :: ys' := by
  rw [mapOpt] at h
  split at h
  · cases h; exact ⟨_, _, ‹_›, ‹_›, rfl⟩
  · cases h

theorem mapOpt_map {f : α → β} {g : β → Option α} :
    ∀ xs : List α, (∀ x ∈ xs, g (f x) = some x) → mapOpt g (xs.map f) = some xs
  | [], _ => rfl
  | x :: xs, h => by
    rw [List.map_cons, mapOpt, h x (List.mem_cons_self ..), mapOpt_map xs fun y hy => h y (List.mem_cons_of_mem _ hy)]

theorem mapOpt_inv {f : α → Option β} {g : β → Option α} :
    ∀ (xs : List α) (ys : List β), mapOpt f xs = some ys → (∀ x ∈ xs, ∀ y, f x = some y → g y = some x) →
      mapOpt g ys = some xs
  | [], ys, h, _ => by cases h; rfl
  | x :: xs, ys, h, hg => by
    obtain ⟨y, ys', hy, hys, rfl⟩ := mapOpt_cons_some h
    rw [mapOpt, hg x (List.mem_cons_self ..) y hy,
      mapOpt_inv xs ys' hys fun z hz => hg z (List.mem_cons_of_mem _ hz)]

theorem mapOpt_eq_none {f : α → Option β} {x : α} : ∀ {xs : List α}, x ∈ xs → f x = Option.none →
    mapOpt f xs = Option.none
  | y :: ys, hm, hx => by
    rw [mapOpt]
    rcases List.mem_cons.1 hm with rfl | hm
    · rw [hx]
    · rw [mapOpt_eq_none hm hx]; split <;> first | rfl | contradiction

theorem mapOpt_mem {f : α → Option β} {xs : List α} {ys : List β} (h : mapOpt f xs = some ys) :
    ∀ x ∈ xs, ∃ y ∈ ys, f x = some y := by
  induction xs generalizing ys with
  | nil => exact fun _ hx => nomatch hx
  | cons a xs ih =>
    obtain ⟨y, ys', hy, hys, rfl⟩ := mapOpt_cons_some h
    exact List.forall_mem_cons.2 ⟨⟨y, List.mem_cons_self, hy⟩,
      fun x hx => (ih hys x hx).imp fun _ h' => ⟨List.mem_cons_of_mem _ h'.1, h'.2⟩⟩

end Vakt.RuleCodec
