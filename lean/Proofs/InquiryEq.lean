import Model.InquiryEq
/-! Inquiry equality: the key order `strLt` (code points) is core's lexicographic `<` on `List Char`, so its laws are corollaries;
a sorted list with distinct keys is unique among its permutations, so `sortKV` does not depend on the order the entries came in. -/
namespace Vakt
open PyVal

theorem strLt_iff : ∀ a b : List Char, strLt a b = true ↔ a < b
  | [], [] => by simp [strLt]
  | [], _ :: _ => by simp [strLt]
  | _ :: _, [] => by simp [strLt]
  | x :: xs, y :: ys => by
    have hxy : x.toNat < y.toNat ↔ x < y := by rw [Char.lt_def, UInt32.lt_iff_toNat_lt]; rfl
    have heq : ¬ x.toNat < y.toNat → ¬ x.toNat > y.toNat → x = y := fun h1 h2 => Char.toNat_inj.1 (by omega)
    rw [strLt, List.cons_lt_cons_iff, ← hxy]
    split
    · rename_i h1; simp only [h1, true_or]
    · split
      · rename_i h1 h2
        have : x ≠ y := fun e => by subst e; omega
        simp only [Bool.false_eq_true, h1, this, false_and, or_self]
      · rename_i h1 h2
        obtain rfl := heq h1 h2
        simp only [strLt_iff xs ys, Nat.lt_irrefl, false_or, true_and]

theorem strLt_irrefl (a : List Char) : strLt a a = false :=
  Bool.eq_false_iff.2 fun h => List.lt_irrefl a ((strLt_iff a a).1 h)

theorem strLt_asymm (a b : List Char) (h : strLt a b = true) : strLt b a = false :=
  Bool.eq_false_iff.2 fun h' => List.lt_asymm ((strLt_iff a b).1 h) ((strLt_iff b a).1 h')

theorem strLt_trans (a b c : List Char) (h1 : strLt a b = true) (h2 : strLt b c = true) : strLt a c = true :=
  (strLt_iff a c).2 (List.lt_trans ((strLt_iff a b).1 h1) ((strLt_iff b c).1 h2))

theorem strLt_total (a b : List Char) (h : strLt a b = false) (hne : a ≠ b) : strLt b a = true := by
  have h' : ¬ a < b := fun hl => by rw [(strLt_iff a b).2 hl] at h; cases h
  rcases List.le_iff_lt_or_eq.1 (List.not_lt.1 h') with hl | he
  · exact (strLt_iff b a).2 hl
  · exact absurd he.symm hne

abbrev KV := List Char × PyVal

def keyLt (a b : KV) : Prop := strLt a.1 b.1 = true

theorem insertKV_perm (kv : KV) (l : List KV) : (insertKV kv l).Perm (kv :: l) := by
  induction l with
  | nil => simp [insertKV]
  | cons x rest ih =>
    simp only [insertKV]
    split
    · exact List.Perm.refl _
    · exact (List.Perm.cons x ih).trans (List.Perm.swap kv x rest)

theorem sortKV_perm (l : List KV) : (sortKV l).Perm l := by
  induction l with
  | nil => simp [sortKV]
  | cons x rest ih => exact (insertKV_perm x (sortKV rest)).trans (List.Perm.cons x ih)

theorem insertKV_sorted (kv : KV) (l : List KV) (hs : l.Pairwise keyLt) (hn : ∀ x ∈ l, x.1 ≠ kv.1) :
    (insertKV kv l).Pairwise keyLt := by
  induction l with
  | nil => exact List.pairwise_singleton ..
  | cons x rest ih =>
    obtain ⟨hx, hrest⟩ := List.pairwise_cons.1 hs
    obtain ⟨hxk, hn'⟩ := List.forall_mem_cons.1 hn
    rw [insertKV]
    split
    · rename_i hlt
      exact List.pairwise_cons.2 ⟨List.forall_mem_cons.2 ⟨hlt, fun y hy => strLt_trans _ _ _ hlt (hx y hy)⟩, hs⟩
    · rename_i hnlt
      refine List.pairwise_cons.2 ⟨fun y hy => ?_, ih hrest hn'⟩
      rcases List.mem_cons.1 ((insertKV_perm kv rest).mem_iff.1 hy) with rfl | hy'
      · exact strLt_total _ _ (Bool.eq_false_iff.2 hnlt) (Ne.symm hxk)
      · exact hx y hy'

theorem distinctKeys_iff (ks : List (List Char)) : distinctKeys ks = true ↔ ks.Nodup := by
  induction ks with
  | nil => simp [distinctKeys]
  | cons k rest ih => simp [distinctKeys, ih, List.nodup_cons]

theorem sortKV_sorted (l : List KV) (hd : (l.map Prod.fst).Nodup) : (sortKV l).Pairwise keyLt := by
  induction l with
  | nil => exact List.Pairwise.nil
  | cons x rest ih =>
    rw [List.map_cons, List.nodup_cons] at hd
    exact insertKV_sorted x _ (ih hd.2) fun y hy e =>
      hd.1 (e ▸ List.mem_map_of_mem (f := Prod.fst) ((sortKV_perm rest).mem_iff.1 hy))

/-- sorting entries with distinct keys does not depend on the order they came in -/
theorem sortKV_perm_eq (l1 l2 : List KV) (hp : l1.Perm l2) (hd : (l1.map Prod.fst).Nodup) :
    sortKV l1 = sortKV l2 := by
  have hd2 : (l2.map Prod.fst).Nodup := (List.Perm.nodup_iff (List.Perm.map _ hp)).1 hd
  apply List.Perm.eq_of_pairwise (le := keyLt)
  · intro a b _ _ h1 h2
    have := strLt_asymm _ _ h1
    rw [h2] at this; cases this
  · exact sortKV_sorted l1 hd
  · exact sortKV_sorted l2 hd2
  · exact (sortKV_perm l1).trans (hp.trans (sortKV_perm l2).symm)

theorem canonKVs_keys (kvs : List KV) : (canonKVs kvs).map Prod.fst = kvs.map Prod.fst := by
  induction kvs with
  | nil => simp [canonKVs]
  | cons x rest ih => obtain ⟨k, v⟩ := x; simp [canonKVs, ih]

theorem canonKVs_perm {a b : List KV} (hp : a.Perm b) : (canonKVs a).Perm (canonKVs b) := by
  induction hp with
  | nil => simp [canonKVs]
  | cons x _ ih => obtain ⟨k, v⟩ := x; simp only [canonKVs]; exact List.Perm.cons _ ih
  | swap x y l =>
    obtain ⟨k, v⟩ := x; obtain ⟨k', v'⟩ := y
    simp only [canonKVs]; exact List.Perm.swap _ _ _
  | trans _ _ ih1 ih2 => exact ih1.trans ih2

mutual
theorem beqVal_iff : ∀ (a b : PyVal), beqVal a b = true ↔ a = b
  | .none, b => by cases b <;> simp [beqVal]
  | .bool x, b => by cases b <;> simp [beqVal]
  | .int x, b => by cases b <;> simp [beqVal]
  | .flt x e, b => by cases b <;> simp [beqVal]
  | .str x, b => by cases b <;> simp [beqVal]
  | .list x, b => by cases b <;> simp [beqVal, beqList_iff x]
  | .tuple x, b => by cases b <;> simp [beqVal, beqList_iff x]
  | .dict x, b => by cases b <;> simp [beqVal, beqKVs_iff x]
theorem beqList_iff : ∀ (a b : List PyVal), beqList a b = true ↔ a = b
  | [], b => by cases b <;> simp [beqList]
  | x :: xs, b => by
    cases b with
    | nil => simp [beqList]
    | cons y ys => simp [beqList, beqVal_iff x y, beqList_iff xs ys]
theorem beqKVs_iff : ∀ (a b : List KV), beqKVs a b = true ↔ a = b
  | [], b => by cases b <;> simp [beqKVs]
  | (k, v) :: xs, b => by
    cases b with
    | nil => simp [beqKVs]
    | cons y ys =>
      obtain ⟨k', v'⟩ := y
      simp [beqKVs, beqVal_iff v v', beqKVs_iff xs ys, and_assoc]
end

end Vakt
