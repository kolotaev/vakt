import Model.Regex
/-! `Lang` by shape of expression (a literal denotes exactly itself, `lang_lit_iff`), then: the derivative matcher decides `Lang`.
`nullable` is membership of the empty word, `deriv c` the quotient by `c`; the model's three matchers follow by induction on the
word. -/
namespace Vakt.Re

theorem lang_eps_iff (w : List Char) : Lang .eps w ↔ w = [] :=
  ⟨fun h => by cases h; rfl, fun h => h ▸ .eps⟩

theorem lang_alt_iff (a b : Re) (w : List Char) : Lang (.alt a b) w ↔ Lang a w ∨ Lang b w :=
  ⟨fun h => by cases h with | altL h => exact .inl h | altR h => exact .inr h, fun h => h.elim .altL .altR⟩

theorem lang_cat_iff (a b : Re) (w : List Char) :
    Lang (.cat a b) w ↔ ∃ u v, w = u ++ v ∧ Lang a u ∧ Lang b v := by
  constructor
  · intro h; cases h with | cat h1 h2 => exact ⟨_, _, rfl, h1, h2⟩
  · rintro ⟨u, v, rfl, h1, h2⟩; exact Lang.cat h1 h2

theorem lang_ch_iff (c : Char) (w : List Char) : Lang (.set ⟨false, [.ch c]⟩) w ↔ w = [c] := by
  constructor
  · intro h
    cases h with
    | set hp =>
      simp [CClass.test, CItem.test] at hp
      subst hp; rfl
  · rintro rfl
    exact Lang.set (by simp [CClass.test, CItem.test])

theorem lang_lit_iff (l w : List Char) : Lang (Re.lit l) w ↔ w = l := by
  induction l generalizing w with
  | nil => exact lang_eps_iff w
  | cons c cs ih =>
    simp only [Re.lit, lang_cat_iff, lang_ch_iff, ih]
    constructor
    · rintro ⟨u, v, rfl, rfl, rfl⟩; rfl
    · rintro rfl; exact ⟨[c], cs, rfl, rfl, rfl⟩

/-- a split `c :: w = u ++ v` has `u` empty, or `u` begins with `c` and what is left of it splits `w` (the case distinction behind
the derivative of a concatenation and behind the prefix matcher) -/
theorem exists_cons_eq_append {c : Char} {w : List Char} {P : List Char → List Char → Prop} :
    (∃ u v, c :: w = u ++ v ∧ P u v) ↔ P [] (c :: w) ∨ ∃ u v, w = u ++ v ∧ P (c :: u) v := by
  constructor
  · rintro ⟨u, v, huv, h⟩
    cases u with
    | nil => exact .inl (huv ▸ h)
    | cons d u' => cases huv; exact .inr ⟨u', v, rfl, h⟩
  · rintro (h | ⟨u, v, rfl, h⟩)
    · exact ⟨[], _, rfl, h⟩
    · exact ⟨c :: u, v, rfl, h⟩

theorem nullable_iff (r : Re) : r.nullable = true ↔ Lang r [] := by
  induction r with
  | zero => exact ⟨fun h => (nomatch h), fun h => (nomatch h)⟩
  | eps => exact ⟨fun _ => .eps, fun _ => rfl⟩
  | set p => exact ⟨fun h => (nomatch h), fun h => (nomatch h)⟩
  | alt a b iha ihb => simp only [nullable, Bool.or_eq_true, iha, ihb, lang_alt_iff]
  | cat a b iha ihb =>
    simp only [nullable, Bool.and_eq_true, iha, ihb, lang_cat_iff]
    constructor
    · exact fun ⟨h1, h2⟩ => ⟨[], [], rfl, h1, h2⟩
    · rintro ⟨u, v, huv, h1, h2⟩
      obtain ⟨rfl, rfl⟩ := List.append_eq_nil_iff.1 huv.symm
      exact ⟨h1, h2⟩
  | star a _ => exact ⟨fun _ => .starNil, fun _ => rfl⟩

theorem lang_star_cons_iff (a : Re) (c : Char) (w : List Char) :
    Lang (.star a) (c :: w) ↔ ∃ u v, w = u ++ v ∧ Lang a (c :: u) ∧ Lang (.star a) v := by
  constructor
  · generalize hr : Re.star a = r, hx : c :: w = x
    intro h
    induction h with
    | starNil => cases hx
    | @starCons _ u v h1 h2 _ ih2 =>
      cases hr
      cases u with
      | nil => exact ih2 rfl hx
      | cons d u' => cases hx; exact ⟨u', v, rfl, h1, h2⟩
    | _ => cases hr
  · rintro ⟨u, v, rfl, h1, h2⟩; exact Lang.starCons (u := c :: u) h1 h2

theorem deriv_iff (r : Re) (c : Char) (w : List Char) : Lang (r.deriv c) w ↔ Lang r (c :: w) := by
  induction r generalizing w with
  | zero => exact ⟨fun h => (nomatch h), fun h => (nomatch h)⟩
  | eps => exact ⟨fun h => (nomatch h), fun h => (nomatch h)⟩
  | set p =>
    rw [deriv]
    constructor
    · intro h
      split at h
      · cases h; exact Lang.set ‹_›
      · cases h
    · intro h
      cases h with
      | set hp => rw [if_pos hp]; exact Lang.eps
  | alt a b iha ihb => simp only [deriv, lang_alt_iff, iha, ihb]
  | cat a b iha ihb =>
    -- `c` comes from `a`, or `a` matches the empty word and `c :: w` is all `b`'s
    rw [lang_cat_iff, exists_cons_eq_append, ← nullable_iff, deriv]
    split
    · rename_i hn
      simp only [lang_alt_iff, lang_cat_iff, iha, ihb, hn, true_and, or_comm]
    · rename_i hn
      simp only [lang_cat_iff, iha, hn, Bool.false_eq_true, false_and, false_or]
  | star a iha => simp only [deriv, lang_cat_iff, lang_star_cons_iff, iha]

/-- the executable whole-string matcher is exactly the language -/
theorem accepts_iff (r : Re) (w : List Char) : r.accepts w = true ↔ Lang r w := by
  induction w generalizing r with
  | nil => exact nullable_iff r
  | cons c cs ih => rw [accepts, ih, deriv_iff]

/-- the prefix matcher (`re.match`) : some prefix of the word is in the language -/
theorem matchesPrefix_iff (r : Re) (w : List Char) :
    r.matchesPrefix w = true ↔ ∃ u v, w = u ++ v ∧ Lang r u := by
  induction w generalizing r with
  | nil =>
    rw [matchesPrefix, nullable_iff]
    constructor
    · exact fun h => ⟨[], [], rfl, h⟩
    · rintro ⟨u, v, huv, h⟩
      exact (List.append_eq_nil_iff.1 huv.symm).1 ▸ h
  | cons c cs ih =>
    simp only [matchesPrefix, Bool.or_eq_true, ih, nullable_iff, deriv_iff]
    exact (exists_cons_eq_append (P := fun u _ => Lang r u)).symm

/-- `re.match('…$')`: the whole word, or the whole word but for one final newline -/
theorem acceptsDollar_iff (r : Re) (w : List Char) :
    r.acceptsDollar w = true ↔ (Lang r w ∨ ∃ u, w = u ++ ['\n'] ∧ Lang r u) := by
  induction w generalizing r with
  | nil =>
    rw [acceptsDollar, nullable_iff]
    exact ⟨.inl, fun h => h.elim id fun ⟨_, hu, _⟩ => nomatch (List.append_eq_nil_iff.1 hu.symm).2⟩
  | cons c cs ih =>
    -- a word ending in the newline is the newline alone, or `c` followed by such a word
    have hsplit : (∃ u, c :: cs = u ++ ['\n'] ∧ Lang r u) ↔
        ((c = '\n' ∧ cs = []) ∧ Lang r []) ∨ ∃ u, cs = u ++ ['\n'] ∧ Lang r (c :: u) := by
      constructor
      · rintro ⟨u, hu, h⟩
        cases u with
        | nil => cases hu; exact .inl ⟨⟨rfl, rfl⟩, h⟩
        | cons d u' => cases hu; exact .inr ⟨u', rfl, h⟩
      · rintro (⟨⟨rfl, rfl⟩, h⟩ | ⟨u, rfl, h⟩)
        · exact ⟨[], rfl, h⟩
        · exact ⟨c :: u, rfl, h⟩
    simp only [acceptsDollar, Bool.or_eq_true, Bool.and_eq_true, ih, nullable_iff, deriv_iff, beq_iff_eq,
      List.isEmpty_iff, hsplit]
    exact or_left_comm

end Vakt.Re
