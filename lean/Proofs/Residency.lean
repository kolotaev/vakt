import Model.Cache
/-! LRU residency: an entry survives as long as fewer than `cap` distinct other keys are used (`front_ask`, which
`C11.within_capacity_hit` iterates). -/
namespace Vakt.Lru
variable {κ ν : Type} [DecidableEq κ]

theorem nodup_subset_length_le {α : Type} [DecidableEq α] :
    ∀ (l D : List α), l.Nodup → (∀ x ∈ l, x ∈ D) → l.length ≤ D.length :=
  fun _ _ hn hs => hn.length_le_of_subset fun x hx => hs x hx

def keys (l : List (κ × ν)) : List κ := l.map Prod.fst

theorem find_none_iff {k : κ} {l : List (κ × ν)} : find k l = none ↔ k ∉ keys l := by
  induction l with
  | nil => simp [find, keys]
  | cons p rest ih =>
    obtain ⟨k', v'⟩ := p
    simp only [find, keys, List.map_cons, List.mem_cons, not_or]
    split
    · rename_i h; simp [h]
    · rename_i h; simp only [keys] at ih; rw [ih]; exact ⟨fun hh => ⟨h, hh⟩, fun hh => hh.2⟩

theorem find_append_hit {k : κ} {v : ν} {pre post : List (κ × ν)} (h : k ∉ keys pre) :
    find k (pre ++ (k, v) :: post) = some v := by
  induction pre with
  | nil => simp [find]
  | cons p rest ih =>
    obtain ⟨k', v'⟩ := p
    simp only [keys, List.map_cons, List.mem_cons, not_or] at h
    simp only [List.cons_append, find, h.1, ↓reduceIte]
    exact ih h.2

/-- removing another key leaves `(k, v)` in place; what stood in front of it becomes a sublist without `k'` -/
theorem remove_split {k k' : κ} {v : ν} {post : List (κ × ν)} (hne : k' ≠ k) :
    ∀ pre : List (κ × ν), (keys pre).Nodup → ∃ pre' post', remove k' (pre ++ (k, v) :: post) = pre' ++ (k, v) :: post' ∧
      pre'.Sublist pre ∧ k' ∉ keys pre'
  | [], _ => ⟨[], remove k' post, by rw [List.nil_append, remove, if_neg hne]; rfl, .slnil, List.not_mem_nil⟩
  | (k0, v0) :: rest, hnd => by
    have hnd := List.nodup_cons.1 hnd
    simp only [List.cons_append, remove]
    split
    · rename_i he
      exact ⟨rest, post, rfl, List.sublist_cons_self .., he ▸ hnd.1⟩
    · rename_i he
      obtain ⟨pre', post', e, hs, hn⟩ := remove_split hne rest hnd.2
      exact ⟨(k0, v0) :: pre', post', by rw [e]; rfl, hs.cons_cons _, fun hx => (List.mem_cons.1 hx).elim he hn⟩

/-- `l` holds `k`, and the entries in front of it (more recently used) have distinct keys, all in `D`, none `k`: so the front is
no longer than `D` -/
def Front (k : κ) (D : List κ) (l : List (κ × ν)) : Prop :=
  ∃ pre v post, l = pre ++ (k, v) :: post ∧ (∀ x ∈ keys pre, x ∈ D) ∧ (keys pre).Nodup ∧ k ∉ keys pre

theorem find_of_front {k : κ} {D : List κ} {l : List (κ × ν)} (h : Front k D l) : ∃ v, find k l = some v := by
  obtain ⟨pre, v, post, rfl, _, _, hk⟩ := h
  exact ⟨v, find_append_hit hk⟩

/-- the capacity admits `m` entries in front of one more -/
def Room : Option Nat → Nat → Prop
  | none, _ => True
  | some n, m => m < n

theorem room_zero {cap : Option Nat} (h : cap ≠ some 0) : Room cap 0 := by
  cases cap with
  | none => trivial
  | some n => exact Nat.pos_of_ne_zero fun e => h (e ▸ rfl)

theorem Room.ne_zero {cap : Option Nat} {m : Nat} (h : Room cap m) : cap ≠ some 0 := by
  rintro rfl; exact Nat.not_lt_zero _ h

omit [DecidableEq κ] in
theorem front_self {k : κ} {D : List κ} {l : List (κ × ν)} {v : ν} : Front k D ((k, v) :: l) :=
  ⟨[], v, l, rfl, fun _ h => absurd h List.not_mem_nil, List.nodup_nil, List.not_mem_nil⟩

omit [DecidableEq κ] in
theorem front_cons {k k' : κ} {D : List κ} {v v' : ν} {pre post : List (κ × ν)} (hsub : ∀ x ∈ keys pre, x ∈ D)
    (hnd : (keys pre).Nodup) (hk : k ∉ keys pre) (hne : k' ≠ k) (hD : k' ∈ D) (hin : k' ∉ keys pre) :
    Front k D ((k', v') :: (pre ++ (k, v) :: post)) := by
  refine ⟨(k', v') :: pre, v, post, rfl, ?_, ?_, ?_⟩
  · intro x hx
    rcases List.mem_cons.1 hx with rfl | hx
    · exact hD
    · exact hsub x hx
  · exact List.nodup_cons.2 ⟨hin, hnd⟩
  · exact fun hx => (List.mem_cons.1 hx).elim (fun e => hne e.symm) hk

theorem front_hit_other {k k' : κ} {D : List κ} {l : List (κ × ν)} {v' : ν} (h : Front k D l)
    (hne : k' ≠ k) (hD : k' ∈ D) : Front k D ((k', v') :: remove k' l) := by
  obtain ⟨pre, v, post, rfl, hsub, hnd, hk⟩ := h
  obtain ⟨pre', post', e, hs, hin⟩ := remove_split (v := v) (post := post) hne pre hnd
  have hs' : (keys pre').Sublist (keys pre) := hs.map _
  rw [e]
  exact front_cons (fun x hx => hsub x (hs'.subset hx)) (hs'.nodup hnd) (fun hx => hk (hs'.subset hx)) hne hD hin

theorem front_trim {k : κ} {D : List κ} {l : List (κ × ν)} {cap : Option Nat} (h : Front k D l)
    (hroom : Room cap D.length) : Front k D (trim cap l) := by
  cases cap with
  | none => exact h
  | some n =>
    obtain ⟨pre, v, post, rfl, hsub, hnd, hk⟩ := h
    have hlen : pre.length ≤ D.length := by
      simpa only [keys, List.length_map] using nodup_subset_length_le _ _ hnd hsub
    obtain ⟨m, rfl⟩ : ∃ m, n = pre.length + (m + 1) := ⟨n - pre.length - 1, by simp only [Room] at hroom; omega⟩
    exact ⟨pre, v, post.take m, by rw [trim, List.take_length_add_append, List.take_succ_cons], hsub, hnd, hk⟩

theorem front_miss_other {k k' : κ} {D : List κ} {l : List (κ × ν)} {v' : ν} {cap : Option Nat}
    (h : Front k D l) (hne : k' ≠ k) (hD : k' ∈ D) (hmiss : find k' l = none) (hroom : Room cap D.length) :
    Front k D (trim cap ((k', v') :: l)) := by
  obtain ⟨pre, v, post, rfl, hsub, hnd, hk⟩ := h
  have hin : k' ∉ keys pre := fun hm =>
    find_none_iff.1 hmiss (by simp only [keys, List.map_append, List.mem_append]; exact Or.inl hm)
  exact front_trim (front_cons hsub hnd hk hne hD hin) hroom

/-- one use of key `k'` on a cache of capacity other than 0 (`v`: the value computed on a miss).  The model spells these two
branches out twice, in `Lru.call` and in `lruBackend`'s `lookup` / `put`; `C11.step_ask_lru` ties `ask` to the latter -/
def ask (c : Lru κ ν) (k' : κ) (v : ν) : Lru κ ν :=
  match find k' c.entries with
  | some v' => { c with entries := (k', v') :: remove k' c.entries }
  | none => { c with entries := trim c.cap ((k', v) :: c.entries) }

theorem ask_cap (c : Lru κ ν) (k' : κ) (v : ν) : (c.ask k' v).cap = c.cap := by
  unfold ask; split <;> rfl

/-- `h` assumes nothing for `k' = k`: an ask of `k` itself puts it in front whatever the cache held, an ask of a member of `D` keeps
it held, so this one lemma both establishes `Front` and preserves it -/
theorem front_ask {c : Lru κ ν} {k k' : κ} {D : List κ} {v : ν} (hroom : Room c.cap D.length)
    (h : k' ≠ k → k' ∈ D ∧ Front k D c.entries) : Front k D (c.ask k' v).entries := by
  unfold ask
  by_cases he : k' = k
  · subst he
    split
    · exact front_self
    · exact front_trim front_self hroom
  · obtain ⟨hD, h⟩ := h he
    split
    · exact front_hit_other h he hD
    · rename_i hmiss; exact front_miss_other h he hD hmiss hroom

end Vakt.Lru
