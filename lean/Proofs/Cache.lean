import Model.Cache
/-! A cache that only ever stores `f k` under `k` (`Inv`) is transparent, for every capacity and history: each of the three
ways out of `Lru.call` keeps `Inv`. -/
namespace Vakt.Lru
variable {κ ν : Type} [DecidableEq κ]

/-- every stored entry is the wrapped function's value for its key -/
def Inv (f : κ → ν) (c : Lru κ ν) : Prop := ∀ k v, (k, v) ∈ c.entries → v = f k

theorem find_mem {k : κ} {v : ν} {l : List (κ × ν)} (h : find k l = some v) : (k, v) ∈ l := by
  induction l with
  | nil => simp [find] at h
  | cons p rest ih =>
    obtain ⟨k', v'⟩ := p
    simp only [find] at h
    split at h
    · rename_i hk; simp at h; subst hk; subst h; simp
    · exact List.mem_cons_of_mem _ (ih h)

theorem mem_remove {k k0 : κ} {v : ν} {l : List (κ × ν)} (h : (k, v) ∈ remove k0 l) : (k, v) ∈ l := by
  induction l with
  | nil => simp [remove] at h
  | cons p rest ih =>
    obtain ⟨k', v'⟩ := p
    simp only [remove] at h
    split at h
    · exact List.mem_cons_of_mem _ h
    · rcases List.mem_cons.1 h with h | h
      · rw [h]; simp
      · exact List.mem_cons_of_mem _ (ih h)

omit [DecidableEq κ] in
theorem mem_trim {cap : Option Nat} {p : κ × ν} {l : List (κ × ν)} (h : p ∈ trim cap l) : p ∈ l := by
  cases cap with
  | none => exact h
  | some n => exact List.mem_of_mem_take h

theorem call_cap_zero (f : κ → ν) (keep : ν → Bool) (c : Lru κ ν) (k : κ) (hc : c.cap = some 0) :
    c.call f keep k = (f k, true, c) := by
  simp only [call, hc]

theorem call_hit (f : κ → ν) (keep : ν → Bool) (c : Lru κ ν) (k : κ) {v : ν} (hc : c.cap ≠ some 0)
    (hf : find k c.entries = some v) :
    c.call f keep k = (v, false, { c with entries := (k, v) :: remove k c.entries }) := by
  unfold call; split
  · exact absurd ‹_› hc
  · simp only [hf]

theorem call_miss (f : κ → ν) (keep : ν → Bool) (c : Lru κ ν) (k : κ) (hc : c.cap ≠ some 0)
    (hf : find k c.entries = none) :
    c.call f keep k =
      (f k, true, if keep (f k) then { c with entries := trim c.cap ((k, f k) :: c.entries) } else c) := by
  unfold call; split
  · exact absurd ‹_› hc
  · simp only [hf]

theorem find_cons_self (k : κ) (v : ν) (l : List (κ × ν)) : find k ((k, v) :: l) = some v := by
  simp [find]

omit [DecidableEq κ] in
theorem trim_cons {cap : Option Nat} (hc : cap ≠ some 0) (p : κ × ν) (l : List (κ × ν)) :
    trim cap (p :: l) = p :: trim (cap.map (· - 1)) l := by
  cases cap with
  | none => rfl
  | some n =>
    cases n with
    | zero => exact absurd rfl hc
    | succ m => rfl

theorem find_trim_cons_self {cap : Option Nat} (hc : cap ≠ some 0) (k : κ) (v : ν) (l : List (κ × ν)) :
    find k (trim cap ((k, v) :: l)) = some v := by
  rw [trim_cons hc, find_cons_self]

theorem call_transparent (f : κ → ν) (keep : ν → Bool) (c : Lru κ ν) (k : κ) (h : Inv f c) :
    (c.call f keep k).1 = f k ∧ Inv f (c.call f keep k).2.2 := by
  by_cases hc : c.cap = some 0
  · rw [call_cap_zero f keep c k hc]; exact ⟨rfl, h⟩
  · cases hf : find k c.entries with
    | some v =>
      rw [call_hit f keep c k hc hf]
      have hv := h k v (find_mem hf)
      refine ⟨hv, fun k1 v1 hmem => ?_⟩
      rcases List.mem_cons.1 hmem with e | e
      · cases e; exact hv
      · exact h k1 v1 (mem_remove e)
    | none =>
      rw [call_miss f keep c k hc hf]
      refine ⟨rfl, ?_⟩
      split
      · intro k1 v1 hmem
        rcases List.mem_cons.1 (mem_trim hmem) with e | e
        · cases e; rfl
        · exact h k1 v1 e
      · exact h

/-- all answers of any call history equal the uncached function, whatever the capacity -/
theorem run_transparent (f : κ → ν) (keep : ν → Bool) (ks : List κ) :
    ∀ c : Lru κ ν, Inv f c → (run f keep c ks).1 = ks.map f ∧ Inv f (run f keep c ks).2 := by
  induction ks with
  | nil => exact fun c h => ⟨rfl, h⟩
  | cons k ks ih =>
    intro c h
    have := call_transparent f keep c k h
    have ih' := ih _ this.2
    exact ⟨by simp only [run, List.map_cons, this.1, ih'.1], ih'.2⟩

omit [DecidableEq κ] in
theorem inv_empty (f : κ → ν) (cap : Option Nat) : Inv f (empty cap : Lru κ ν) := by
  intro k v h; simp [empty] at h

theorem inv_clear (g : κ → ν) (c : Lru κ ν) : Inv g c.clear := by
  intro k v h; simp [clear] at h

/-- an immediate repeat is answered from the cache whenever the capacity is not 0 and the result was kept -/
theorem repeat_hit (f : κ → ν) (keep : ν → Bool) (c : Lru κ ν) (k : κ) (hc : c.cap ≠ some 0)
    (hk : keep (f k) = true) :
    ((c.call f keep k).2.2.call f keep k).2.1 = false := by
  have h1 : (c.call f keep k).2.2.cap = c.cap ∧ ∃ v, find k (c.call f keep k).2.2.entries = some v := by
    cases hf : find k c.entries with
    | some v => rw [call_hit f keep c k hc hf]; exact ⟨rfl, v, find_cons_self ..⟩
    | none => rw [call_miss f keep c k hc hf, if_pos hk]; exact ⟨rfl, _, find_trim_cons_self hc ..⟩
  obtain ⟨hcap, v, hv⟩ := h1
  rw [call_hit f keep _ k (hcap ▸ hc) hv]

end Vakt.Lru
