import Model.PyVal
/-! `PyVal.lookup` (the first binding of a key in a dictionary's list of entries) by its equations: on a `cons`, on an append, on a
list filtered by key. -/
namespace Vakt.PyVal

variable {k k' : List Char} {v : PyVal} {d a b : List (List Char × PyVal)}

theorem lookup_cons_self : lookup k ((k, v) :: d) = some v := if_pos rfl

theorem lookup_cons_ne (h : k ≠ k') : lookup k ((k', v) :: d) = lookup k d := if_neg h

theorem lookup_cons : lookup k ((k', v) :: d) = if k = k' then some v else lookup k d := rfl

theorem lookup_append : lookup k (a ++ b) = (lookup k a).orElse fun _ => lookup k b := by
  induction a with
  | nil => rfl
  | cons x a ih =>
    rw [List.cons_append, lookup_cons, lookup_cons, ih]
    split <;> rfl

theorem lookup_eq_none (h : ∀ kv ∈ d, kv.1 ≠ k) : lookup k d = Option.none := by
  induction d with
  | nil => rfl
  | cons x d ih =>
    rw [lookup_cons_ne (h x (List.mem_cons_self ..)).symm, ih fun kv hkv => h kv (List.mem_cons_of_mem _ hkv)]

theorem lookup_append_right (h : ∀ kv ∈ a, kv.1 ≠ k) : lookup k (a ++ b) = lookup k b := by
  rw [lookup_append, lookup_eq_none h]; rfl

theorem lookup_filter (q : List Char → Bool) : lookup k (d.filter fun kv => q kv.1) = if q k then lookup k d else Option.none := by
  induction d with
  | nil => split <;> rfl
  | cons x d ih =>
    obtain ⟨k', v⟩ := x
    rw [List.filter_cons]
    by_cases hk : k = k'
    · subst hk
      cases hq : q k <;> simp only [hq, ↓reduceIte, Bool.false_eq_true, lookup_cons_self, ih]
    · rw [lookup_cons_ne hk]
      split
      · rw [lookup_cons_ne hk, ih]
      · exact ih

end Vakt.PyVal
