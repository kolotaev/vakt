import Model.Serialize
import Proofs.Lookup
import Proofs.Lits
/-! Documents and the value codec of the JSON text: `fromDoc` is `construct` of one document (`C09.propsOf`), and
`decVal ∘ encVal = id` on values that do not use jsonpickle's tuple tag as a dictionary key. -/
namespace Vakt.Serialize
open Vakt PyVal

theorem lookup_erase (k : List Char) (k' : String) (d : Doc) :
    lookup k (erase k' d) = if k = k'.toList then Option.none else lookup k d := by
  rw [erase, lookup_filter (fun a => a != k'.toList)]
  by_cases h : k = k'.toList <;> simp only [h, bne_self_eq_false, Bool.false_eq_true, ↓reduceIte, bne_iff_ne, ne_eq, not_false_eq_true]

theorem lookup_put (k : List Char) (k' : String) (v : PyVal) (d : Doc) :
    lookup k (put k' v d) = if k = k'.toList then some v else lookup k d := by
  rw [put, lookup_append, lookup_erase, lookup_cons]
  split
  · rfl
  · cases lookup k d <;> rfl

theorem get_erase_ne (k k' : String) (d : Doc) (h : k.toList ≠ k'.toList) : get k (erase k' d) = get k d := by
  rw [get, lookup_erase, if_neg h]; rfl

theorem get_put_ne (k k' : String) (v : PyVal) (d : Doc) (h : k.toList ≠ k'.toList) : get k (put k' v d) = get k d := by
  rw [get, lookup_put, if_neg h]; rfl

theorem get_put_self (k : String) (v : PyVal) (d : Doc) : get k (put k v d) = v := by
  rw [get, lookup_put, if_pos rfl]; rfl

theorem has_false_get (k : String) (d : Doc) (h : has k d = false) : get k d = .none := by
  rw [get, Option.not_isSome_iff_eq_none.1 (Bool.eq_false_iff.1 h)]; rfl

theorem erase_absent (k : String) (d : Doc) (h : has k d = false) : erase k d = d := by
  induction d with
  | nil => rfl
  | cons kv rest ih =>
    obtain ⟨k', v⟩ := kv
    rw [has, lookup_cons] at h
    split at h
    · cases h
    · rename_i hk
      rw [erase, List.filter_cons, if_pos (bne_iff_ne.2 (Ne.symm hk))]
      exact congrArg _ (ih h)

theorem ctxOf_dictLike {p : Doc} (h : isDictLike (get "context" p) = true) : ctxOf p = get "context" p := by
  unfold ctxOf
  cases hg : get "context" p <;> first | rfl | (rw [hg] at h; cases h)

theorem construct_ok {p : Doc} {r : Decoded} (h : construct p = .ok r) :
    r = { uid := get "uid" p,
          effect := if truthy (get "effect" p) then get "effect" p else .str Generated.denyConst,
          description := get "description" p, subjects := get "subjects" p, resources := get "resources" p,
          actions := get "actions" p, context := ctxOf p } := by
  unfold construct at h
  split at h
  · cases h
  · split at h
    · exact (Except.ok.inj h).symm
    · cases h

end Vakt.Serialize

namespace Vakt.C09
open Vakt PyVal Vakt.Serialize

/-- what `fromDoc` hands to the constructor (in `C09`: the statements of `Props/C09.lean` speak of it) -/
def propsOf (d : Doc) : Doc :=
  erase "type" (put "context"
    (if has "context" d then get "context" d else if has "rules" d then get "rules" d else .list [])
    (if has "context" d then d else if has "rules" d then erase "rules" d else d))

end Vakt.C09

namespace Vakt.Serialize
open Vakt PyVal C09

theorem fromDoc_eq (d : Doc) (h : has "uid" d = true) : fromDoc d = construct (propsOf d) := by
  unfold fromDoc propsOf
  simp only [h, Bool.not_true, Bool.false_eq_true, ↓reduceIte]
  by_cases hc : has "context" d = true
  · simp [hc]
  · by_cases hr : has "rules" d = true
    · simp [hc, hr]
    · simp [hc, hr]

theorem get_effect_propsOf (d : Doc) : get "effect" (propsOf d) = get "effect" d := by
  unfold propsOf
  rw [get_erase_ne _ _ _ (toList_ne (by simp)), get_put_ne _ _ _ _ (toList_ne (by simp))]
  split
  · rfl
  · split
    · exact get_erase_ne _ _ _ (toList_ne (by simp))
    · rfl

theorem get_context_propsOf (d : Doc) : get "context" (propsOf d) =
    if has "context" d then get "context" d else if has "rules" d then get "rules" d else .list [] := by
  rw [propsOf, get_erase_ne _ _ _ (toList_ne (by simp)), get_put_self]

theorem retag_plain (kvs : List (List Char × PyVal)) (h : noTagsKVs kvs = true) : retag kvs = .dict kvs := by
  unfold retag
  split
  · simp only [noTagsKVs, Bool.and_eq_true, bne_iff_ne, ne_eq] at h
    rw [if_neg h.1.1]
  · rfl

mutual
theorem dec_enc_val : ∀ v : PyVal, noTags v = true → decVal (encVal v) = v
  | .none, _ => rfl
  | .bool _, _ => rfl
  | .int _, _ => rfl
  | .flt _ _, _ => rfl
  | .str _, _ => rfl
  | .list xs, h => by
    simp only [noTags] at h
    simp [encVal, decVal, dec_enc_list xs h]
  | .tuple xs, h => by
    simp only [noTags] at h
    simp [encVal, decVal, decKVs, retag, dec_enc_list xs h]
  | .dict kvs, h => by
    simp only [noTags] at h
    simp only [encVal, decVal, dec_enc_kvs kvs h]
    exact retag_plain kvs h
theorem dec_enc_list : ∀ xs : List PyVal, noTagsList xs = true → decList (encList xs) = xs
  | [], _ => rfl
  | x :: xs, h => by
    simp only [noTagsList, Bool.and_eq_true] at h
    simp [encList, decList, dec_enc_val x h.1, dec_enc_list xs h.2]
theorem dec_enc_kvs : ∀ kvs : List (List Char × PyVal), noTagsKVs kvs = true → decKVs (encKVs kvs) = kvs
  | [], _ => rfl
  | (k, v) :: rest, h => by
    simp only [noTagsKVs, Bool.and_eq_true] at h
    simp [encKVs, decKVs, dec_enc_val v h.1.2, dec_enc_kvs rest h.2]
end

end Vakt.Serialize
