import Proofs.TagParser
/-! Reading the same text, `tagIdxAux` (positions) and `scanAux` (pieces) stay related by `Inv`: the pieces cut so far are the
slices of the index pairs recorded so far.  So slicing the final index list gives the scanner's pieces. -/
namespace Vakt.TagParser

/-- `piecesFrom` without its closing literal: the pieces cut off by the index pairs, the first literal starting at `endp` -/
def pfx (phrase : List Char) : List (Nat × Nat) → Nat → List Piece
  | [], _ => []
  | (idx, e) :: rest, endp =>
    Piece.lit (slice phrase endp idx) :: Piece.seg (slice phrase (idx + 1) (e - 1)) :: pfx phrase rest e

/-- where the last index pair ends (`endp` if there is none): there the closing literal of `piecesFrom` starts -/
def lastEnd : List (Nat × Nat) → Nat → Nat
  | [], endp => endp
  | (_, e) :: rest, _ => lastEnd rest e

theorem piecesFrom_eq (phrase : List Char) : ∀ (ix : List (Nat × Nat)) (endp : Nat),
    piecesFrom phrase ix endp = pfx phrase ix endp ++ [Piece.lit (phrase.drop (lastEnd ix endp))]
  | [], _ => rfl
  | (idx, e) :: rest, endp => by simp [piecesFrom, pfx, lastEnd, piecesFrom_eq phrase rest e]

theorem pfx_append (phrase : List Char) (a b : Nat) : ∀ (ix : List (Nat × Nat)) (endp : Nat),
    pfx phrase (ix ++ [(a, b)]) endp =
      pfx phrase ix endp ++ [Piece.lit (slice phrase (lastEnd ix endp) a), Piece.seg (slice phrase (a + 1) (b - 1))]
  | [], _ => rfl
  | (idx, e) :: rest, endp => by simp [pfx, lastEnd, pfx_append phrase a b rest e]

theorem lastEnd_append (a b : Nat) : ∀ (ix : List (Nat × Nat)) (endp : Nat), lastEnd (ix ++ [(a, b)]) endp = b
  | [], _ => rfl
  | (_, e) :: rest, _ => by simp [lastEnd, lastEnd_append a b rest e]

/-- what the two scanners know after reading `pre`, by nesting level: outside a segment the text
being read is what follows the last segment; inside, the literal before it is already cut -/
def Inv (phrase pre cur : List Char) (accP : List Piece) (idx : Nat) (accI : List (Nat × Nat)) : Nat → Prop
  | 0 => accP = pfx phrase accI 0 ∧ cur = pre.drop (lastEnd accI 0) ∧ lastEnd accI 0 ≤ pre.length
  | _ + 1 => accP = pfx phrase accI 0 ++ [Piece.lit (slice phrase (lastEnd accI 0) idx)] ∧
      cur = pre.drop (idx + 1) ∧ idx < pre.length ∧ lastEnd accI 0 ≤ idx

theorem tagIdxAux_cons (s t c : Char) (cs : List Char) (i idx level : Nat) (acc : List (Nat × Nat)) :
    tagIdxAux s t (c :: cs) i idx level acc =
      if c = s then tagIdxAux s t cs (i + 1) (if level = 0 then i else idx) (level + 1) acc
      else if c = t then
        (match level with
         | 0 => none
         | 1 => tagIdxAux s t cs (i + 1) idx 0 (acc ++ [(idx, i + 1)])
         | n + 2 => tagIdxAux s t cs (i + 1) idx (n + 1) acc)
      else tagIdxAux s t cs (i + 1) idx level acc := rfl

theorem tagIdxAux_seg (s t c : Char) (cs : List Char) (i idx n : Nat) (acc : List (Nat × Nat)) :
    tagIdxAux s t (c :: cs) i idx (n + 1) acc =
      match bodyLevel s t [c] n with
      | some m => tagIdxAux s t cs (i + 1) idx (m + 1) acc
      | none => tagIdxAux s t cs (i + 1) idx 0 (acc ++ [(idx, i + 1)]) := by
  rw [tagIdxAux_cons]
  unfold bodyLevel
  by_cases hs : c = s
  · rw [if_pos hs, if_pos hs]; rfl
  · rw [if_neg hs, if_neg hs]
    by_cases ht : c = t
    · rw [if_pos ht, if_pos ht]; cases n <;> rfl
    · rw [if_neg ht, if_neg ht]; rfl

theorem lockstep (s t : Char) (phrase : List Char) : ∀ (rest pre : List Char), phrase = pre ++ rest →
    ∀ (level : Nat) (cur : List Char) (accP : List Piece) (idx : Nat) (accI : List (Nat × Nat)),
      Inv phrase pre cur accP idx accI level →
      (tagIdxAux s t rest pre.length idx level accI).map (fun ix => piecesFrom phrase ix 0) =
        scanAux s t rest level cur accP := by
  intro rest
  induction rest with
  | nil =>
    intro pre hp level cur accP idx accI hinv
    simp only [List.append_nil] at hp
    subst hp
    cases level with
    | zero =>
      obtain ⟨h1, h2, _⟩ := hinv
      simp only [tagIdxAux, scanAux, Option.map_some, piecesFrom_eq, h1, h2]
    | succ n => rfl
  | cons c cs ih =>
    intro pre hp level cur accP idx accI hinv
    have step : ∀ level' cur' accP' idx' accI', Inv phrase (pre ++ [c]) cur' accP' idx' accI' level' →
        (tagIdxAux s t cs (pre.length + 1) idx' level' accI').map (fun ix => piecesFrom phrase ix 0) =
          scanAux s t cs level' cur' accP' := by
      have := ih (pre ++ [c]) (by rw [hp, List.append_assoc]; rfl)
      rwa [List.length_append] at this
    have hslice : ∀ a, slice phrase a pre.length = pre.drop a := fun a => by rw [slice, hp, List.take_left]
    cases level with
    | zero =>
      obtain ⟨h1, h2, h3⟩ := hinv
      by_cases hs : c = s
      · -- a segment opens: the literal read so far is cut
        simp only [tagIdxAux, scanAux, hs, ↓reduceIte]
        exact step 1 [] (accP ++ [Piece.lit cur]) pre.length accI
          ⟨by rw [h1, h2, hslice], by rw [List.drop_of_length_le]; simp, by simp, h3⟩
      · by_cases ht : c = t
        · have hts : ¬ t = s := fun e => hs (ht.trans e)
          simp only [tagIdxAux, scanAux, ht, hts, ↓reduceIte, Option.map_none]
        · simp only [tagIdxAux, scanAux, hs, ht, ↓reduceIte]
          exact step 0 _ accP idx accI
            ⟨h1, by rw [h2, List.drop_append_of_le_length h3], by rw [List.length_append]; omega⟩
    | succ n =>
      obtain ⟨h1, h2, h3, h4⟩ := hinv
      rw [tagIdxAux_seg, scanAux_seg]
      cases bodyLevel s t [c] n with
      | some m =>
        -- every character but the closing tag just extends the body
        exact step (m + 1) _ accP idx accI
          ⟨h1, by rw [h2, List.drop_append_of_le_length (by omega)], by rw [List.length_append]; omega, h4⟩
      | none =>
        -- the segment closes: its index pair and its body are recorded
        exact step 0 [] (accP ++ [Piece.seg cur]) idx (accI ++ [(idx, pre.length + 1)])
          ⟨by rw [pfx_append, h1, h2]
              simp only [Nat.add_sub_cancel, hslice, List.append_assoc, List.cons_append, List.nil_append],
           by rw [lastEnd_append, List.drop_of_length_le]; simp, by rw [lastEnd_append]; simp⟩

/-- `get_tag_indices` followed by the slicing loop of `compile_regex` computes the scanner's decomposition, and fails exactly
when the scanner does -/
theorem scanByIndex_eq_scan (s t : Char) (e : List Char) : scanByIndex s t e = scan s t e :=
  -- `scanByIndex`, `tagIndices` and `scan` unfold to the two scanners started on the whole text with nothing read
  lockstep s t e e [] rfl 0 [] [] 0 [] ⟨rfl, rfl, Nat.le_refl _⟩

end Vakt.TagParser
