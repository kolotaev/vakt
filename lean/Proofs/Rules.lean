import Model.Rules
import Proofs.PyVal
/-! `And` (for every operand list: it raises iff an operand raises) and `Or` (when nothing raises) in closed form, stated with
`List.all` / `List.any` so that permutation and De Morgan are the list facts. -/
namespace Vakt
open PyVal

namespace Rule

/-- the comprehension of `And` (`PyErr` has one value) -/
theorem evalAll_eq (rs : List Rule) (w : PyVal) (q : Option Inquiry) :
    evalAll rs w q =
      if rs.all (fun r => (eval r w q).isOk) then .ok (rs.map fun r => isOkTrue (eval r w q))
      else .error .raised := by
  induction rs with
  | nil => rfl
  | cons r rs ih =>
    rw [evalAll, ih, List.all_cons, List.map_cons]
    cases eval r w q with
    | error e => cases e; rfl
    | ok b => cases rs.all (fun r => (eval r w q).isOk) <;> cases b <;> rfl

theorem and_eq (rs : List Rule) (w : PyVal) (q : Option Inquiry) :
    eval (.and rs) w q =
      if rs.all (fun r => (eval r w q).isOk) then .ok (!rs.isEmpty && rs.all fun r => isOkTrue (eval r w q))
      else .error .raised := by
  rw [eval, evalAll_eq]
  split
  · simp only [Except.map, List.isEmpty_map, List.all_map]; rfl
  · rfl

theorem all_isOk {rs : List Rule} {w : PyVal} {q : Option Inquiry} (h : ∀ r ∈ rs, ∃ b, eval r w q = .ok b) :
    rs.all (fun r => (eval r w q).isOk) = true :=
  List.all_eq_true.2 fun r hr => (isOk_iff _).2 (h r hr)

theorem and_eq_ok_true_iff (rs : List Rule) (w : PyVal) (q : Option Inquiry) :
    eval (.and rs) w q = .ok true ↔ rs ≠ [] ∧ ∀ r ∈ rs, eval r w q = .ok true := by
  rw [and_eq]
  constructor
  · intro h
    split at h
    · simpa [isOkTrue_iff] using h
    · cases h
  · intro ⟨hne, hall⟩
    rw [if_pos (all_isOk fun r hr => ⟨true, hall r hr⟩)]
    simpa [isOkTrue_iff, hne] using hall

theorem and_ok_iff (rs : List Rule) (w : PyVal) (q : Option Inquiry)
    (h : ∀ r ∈ rs, ∃ b, eval r w q = .ok b) :
    (∃ b, eval (.and rs) w q = .ok b) ∧
    (eval (.and rs) w q = .ok true ↔ rs ≠ [] ∧ ∀ r ∈ rs, eval r w q = .ok true) :=
  ⟨by rw [and_eq, if_pos (all_isOk h)]; exact ⟨_, rfl⟩, and_eq_ok_true_iff rs w q⟩

theorem and_raises_iff (rs : List Rule) (w : PyVal) (q : Option Inquiry) :
    (∃ e, eval (.and rs) w q = .error e) ↔ ∃ r ∈ rs, ∃ e, eval r w q = .error e := by
  have : (∃ e, eval (.and rs) w q = .error e) ↔ rs.all (fun r => (eval r w q).isOk) = false := by
    rw [and_eq]; split <;> simp [*]
  simp only [this, List.all_eq_false, Bool.not_eq_true, isOk_eq_false_iff]

/-- raises included: `And` evaluates every operand, whatever the order -/
theorem and_perm (rs rs' : List Rule) (w : PyVal) (q : Option Inquiry) (hp : rs.Perm rs') :
    eval (.and rs) w q = eval (.and rs') w q := by
  simp only [and_eq, hp.all_eq, hp.isEmpty_eq]

theorem evalAny_cons (r : Rule) (rs : List Rule) (w : PyVal) (q : Option Inquiry) :
    evalAny (r :: rs) w q = .ok true ↔
      eval r w q = .ok true ∨ eval r w q = .ok false ∧ evalAny rs w q = .ok true := by
  rw [evalAny]
  cases eval r w q with
  | error e => simp
  | ok b => cases b <;> simp

theorem or_ok_true_iff (rs : List Rule) (w : PyVal) (q : Option Inquiry) :
    eval (.or rs) w q = .ok true ↔
      ∃ pre r post, rs = pre ++ r :: post ∧ eval r w q = .ok true ∧ ∀ x ∈ pre, eval x w q = .ok false := by
  rw [eval]
  induction rs with
  | nil => simp [evalAny]
  | cons r rs ih =>
    rw [evalAny_cons, ih]
    constructor
    · rintro (h | ⟨hr, pre, x, post, rfl, hx, hpre⟩)
      · exact ⟨[], r, rs, rfl, h, by simp⟩
      · exact ⟨r :: pre, x, post, rfl, hx, List.forall_mem_cons.2 ⟨hr, hpre⟩⟩
    · rintro ⟨pre, x, post, hsplit, hx, hpre⟩
      cases pre with
      | nil => cases hsplit; exact Or.inl hx
      | cons p pre' =>
        cases hsplit
        exact Or.inr ⟨hpre _ (List.mem_cons_self ..), pre', x, post, rfl, hx, fun y hy => hpre y (List.mem_cons_of_mem _ hy)⟩

theorem or_eq_of_noRaise (rs : List Rule) (w : PyVal) (q : Option Inquiry)
    (h : ∀ r ∈ rs, ∃ b, eval r w q = .ok b) :
    eval (.or rs) w q = .ok (rs.any fun r => isOkTrue (eval r w q)) := by
  rw [eval]
  induction rs with
  | nil => rfl
  | cons r rs ih =>
    obtain ⟨b, hb⟩ := h r (List.mem_cons_self ..)
    rw [evalAny, hb, List.any_cons, hb]
    cases b
    · exact ih fun x hx => h x (List.mem_cons_of_mem _ hx)
    · rfl

theorem or_perm_noraise (rs rs' : List Rule) (w : PyVal) (q : Option Inquiry) (hp : rs.Perm rs')
    (h : ∀ r ∈ rs, ∃ b, eval r w q = .ok b) :
    eval (.or rs) w q = eval (.or rs') w q := by
  rw [or_eq_of_noRaise rs w q h, or_eq_of_noRaise rs' w q fun r hr => h r (hp.mem_iff.2 hr), hp.any_eq]

theorem de_morgan (rs : List Rule) (w : PyVal) (q : Option Inquiry) (hne : rs ≠ [])
    (h : ∀ r ∈ rs, ∃ b, eval r w q = .ok b) :
    eval (.not (.and rs)) w q = eval (.or (rs.map .not)) w q := by
  have hnot : ∀ r ∈ rs, eval (.not r) w q = .ok (!isOkTrue (eval r w q)) := fun r hr => by
    obtain ⟨b, hb⟩ := h r hr; rw [eval, hb]; cases b <;> rfl
  rw [or_eq_of_noRaise _ w q fun r hr => by obtain ⟨x, hx, rfl⟩ := List.mem_map.1 hr; exact ⟨_, hnot x hx⟩,
    eval, and_eq, if_pos (all_isOk h), List.isEmpty_eq_false_iff.2 hne, List.any_map]
  simp only [Except.map, Bool.not_false, Bool.true_and, List.not_all_eq_any_not]
  -- operand by operand, `Not r` is satisfied where `r` is not
  refine congrArg _ (Bool.eq_iff_iff.2 ?_)
  simp only [List.any_eq_true, Function.comp]
  exact exists_congr fun r => and_congr_right fun hr => by rw [hnot r hr, isOkTrue_ok]

end Rule
end Vakt
