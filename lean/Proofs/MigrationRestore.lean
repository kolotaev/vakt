import Model.Migration
import Proofs.Migration
/-! What whole-set runs do to the schema: an unfaulted `up` run adds nothing but the listed migrations; an unfaulted `down` run over
a descending list removes every listed one, provided those above the recorded version have no effect in place.  So a full `up`
followed by a full `down` leaves no schema effect (`C18.up_down_restores`). -/
namespace Vakt.Migration

theorem insertSorted_sorted {y : Nat} {s : List Nat} (h : s.Pairwise (· ≤ ·)) :
    (insertSorted y s).Pairwise (· ≤ ·) := by
  induction s with
  | nil => simp [insertSorted]
  | cons b u ih =>
    simp only [insertSorted]
    have hb := List.pairwise_cons.1 h
    split
    · rename_i hle
      refine List.pairwise_cons.2 ⟨fun z hz => ?_, h⟩
      rcases List.mem_cons.1 hz with rfl | hz
      · exact hle
      · exact Nat.le_trans hle (hb.1 z hz)
    · rename_i hnle
      refine List.pairwise_cons.2 ⟨fun z hz => ?_, ih hb.2⟩
      rcases mem_insertSorted.1 hz with rfl | hz
      · omega
      · exact hb.1 z hz

theorem sortAsc_sorted (l : List Nat) : (sortAsc l).Pairwise (· ≤ ·) := by
  induction l with
  | nil => simp [sortAsc]
  | cons a t ih => exact insertSorted_sorted ih

theorem mem_delSchema {x n : Nat} {s : List Nat} : x ∈ delSchema n s ↔ x ∈ s ∧ x ≠ n := by
  simp [delSchema]

theorem mem_addSchema {x n : Nat} {s : List Nat} (h : x ∈ addSchema n s) : x = n ∨ x ∈ s := by
  unfold addSchema at h
  split at h
  · exact Or.inr h
  · exact (List.mem_append.1 h).symm.imp_left List.mem_singleton.1

theorem loop_up_schema_sub (ms : List Nat) : ∀ k st x, x ∈ (loop .up .none ms k st).1.schema →
    x ∈ st.schema ∨ x ∈ ms := by
  intro k st x h
  rw [loop_none] at h
  induction ms generalizing st with
  | nil => exact Or.inl h
  | cons n rest ih =>
    rcases ih _ h with h | h
    · rw [stepG] at h
      split at h
      · exact Or.inl h
      · exact (mem_addSchema h).elim (fun e => Or.inr (e ▸ List.mem_cons_self ..)) Or.inl
    · exact Or.inr (List.mem_cons_of_mem _ h)

theorem loop_down_schema (ms : List Nat) (hdesc : ms.Pairwise (· ≥ ·)) : ∀ k st,
    (∀ m ∈ ms, m ≤ st.last ∨ m ∉ st.schema) →
    ∀ x, x ∈ (loop .down .none ms k st).1.schema → x ∈ st.schema ∧ x ∉ ms := by
  intro k st hinv x h
  rw [loop_none] at h
  induction ms generalizing st with
  | nil => exact ⟨h, List.not_mem_nil⟩
  | cons n rest ih =>
    have hd := List.pairwise_cons.1 hdesc
    rw [List.foldl_cons, stepG] at h
    split at h
    · -- `n` is skipped: it is above the version, so it was not applied
      rename_i hg
      obtain ⟨h1, h2⟩ := ih hd.2 st (fun m hm => hinv m (List.mem_cons_of_mem _ hm)) h
      have hn : n ∉ st.schema :=
        (hinv n (List.mem_cons_self ..)).resolve_left (Nat.not_le.2 ((gatedB_false_iff .down n st.last).1 hg))
      exact ⟨h1, fun hx => (List.mem_cons.1 hx).elim (fun e => hn (e ▸ h1)) h2⟩
    · -- `n` is undone: it is gone, and every smaller number is at or below the new version `n - 1`
      have hinv' : ∀ m ∈ rest, m ≤ n - 1 ∨ m ∉ delSchema n st.schema := fun m hm =>
        if he : m = n then .inr fun hm' => (mem_delSchema.1 hm').2 he
        else .inl (Nat.le_sub_one_of_lt (Nat.lt_of_le_of_ne (hd.1 m hm) he))
      obtain ⟨h1, h2⟩ := ih hd.2 (applyStep .down n st) hinv' h
      obtain ⟨hx, hne⟩ := mem_delSchema.1 h1
      exact ⟨hx, fun hx' => (List.mem_cons.1 hx').elim hne h2⟩

end Vakt.Migration
