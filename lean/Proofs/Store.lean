import Model.Store
/-! The abstract store, seen through `lookup`: what `replace`, `erase` and appending a fresh binding do to it and to `Distinct`
(`Nodup` of the keys); `listing` permutes, `retrieveAll` with a positive batch size returns the whole list; and the equations of
`Store.step`, one per operation, for `add` and `update` one per way the call can end. -/
namespace Vakt.Store

theorem lookup_append (u : Uid) (a b : St) :
    lookup u (a ++ b) = (lookup u a).orElse (fun _ => lookup u b) := by
  induction a with
  | nil => simp [lookup]
  | cons x rest ih =>
    obtain ⟨k, v⟩ := x
    simp only [List.cons_append, lookup]
    split
    · simp
    · exact ih

theorem lookup_snoc {s : St} {u : Uid} (p : Pol) (h : lookup u s = none) (u' : Uid) :
    lookup u' (s ++ [(u, p)]) = if u' = u then some p else lookup u' s := by
  rw [lookup_append]
  by_cases e : u' = u
  · subst e; simp [h, lookup]
  · cases lookup u' s <;> simp [lookup, Ne.symm e, e]

theorem lookup_replace (u u' : Uid) (p : Pol) (s : St) :
    lookup u' (replace u p s) = if u' = u then (lookup u s).map (fun _ => p) else lookup u' s := by
  induction s with
  | nil => simp [lookup, replace]
  | cons x rest ih =>
    obtain ⟨k, v⟩ := x
    simp only [replace]
    by_cases hk : k = u
    · subst hk
      simp only [↓reduceIte, lookup]
      by_cases h : u' = k
      · subst h; simp
      · simp [h, Ne.symm h]
    · simp only [hk, ↓reduceIte, lookup]
      by_cases h : k = u'
      · subst h
        simp [hk]
      · simp only [h, ↓reduceIte, ih]

theorem lookup_erase (u u' : Uid) {s : St} (hd : Distinct s) :
    lookup u' (erase u s) = if u' = u then none else lookup u' s := by
  induction s with
  | nil => simp [erase, lookup]
  | cons x rest ih =>
    obtain ⟨k, v⟩ := x
    simp only [erase]
    by_cases hk : k = u
    · subst hk
      simp only [↓reduceIte, lookup]
      by_cases h : u' = k
      · subst h; simpa using hd.1
      · simp [h, Ne.symm h]
    · simp only [hk, ↓reduceIte, lookup, ih hd.2]
      by_cases h : k = u'
      · subst h; simp [hk]
      · simp [h]

theorem erase_absent (u : Uid) (s : St) (h : lookup u s = none) : erase u s = s := by
  induction s with
  | nil => rfl
  | cons x rest ih =>
    obtain ⟨k, v⟩ := x
    simp only [lookup] at h
    split at h
    · cases h
    · rename_i hk; simp only [erase, hk, ↓reduceIte, ih h]

theorem replace_absent (u : Uid) (p : Pol) (s : St) (h : lookup u s = none) : replace u p s = s := by
  induction s with
  | nil => rfl
  | cons x rest ih =>
    obtain ⟨k, v⟩ := x
    simp only [lookup] at h
    split at h
    · cases h
    · rename_i hk; simp only [replace, hk, ↓reduceIte, ih h]

def keys (s : St) : List Uid := s.map Prod.fst

theorem lookup_none_iff (u : Uid) (s : St) : lookup u s = none ↔ u ∉ keys s := by
  induction s with
  | nil => simp [lookup, keys]
  | cons x rest ih =>
    obtain ⟨k, v⟩ := x
    simp only [lookup, keys, List.map_cons, List.mem_cons, not_or]
    by_cases hk : k = u
    · subst hk; simp
    · simp only [hk, ↓reduceIte, Ne.symm hk, not_false_eq_true, true_and]
      exact ih

theorem distinct_iff_nodup (s : St) : Distinct s ↔ (keys s).Nodup := by
  induction s with
  | nil => simp [Distinct, keys]
  | cons x rest ih =>
    obtain ⟨k, v⟩ := x
    simp only [Distinct, keys, List.map_cons, List.nodup_cons]
    rw [lookup_none_iff, ih]
    rfl

theorem distinct_perm {s s' : St} (hp : s.Perm s') (hd : Distinct s) : Distinct s' := by
  rw [distinct_iff_nodup] at hd ⊢
  exact (List.Perm.nodup_iff (List.Perm.map Prod.fst hp)).1 hd

theorem erase_sublist (u : Uid) (s : St) : (erase u s).Sublist s := by
  induction s with
  | nil => exact List.Sublist.refl _
  | cons x rest ih =>
    obtain ⟨k, v⟩ := x
    simp only [erase]
    split
    · exact List.Sublist.cons _ (List.Sublist.refl _)
    · exact List.Sublist.cons_cons _ ih

theorem distinct_erase (u : Uid) (s : St) (hd : Distinct s) : Distinct (erase u s) := by
  rw [distinct_iff_nodup] at hd ⊢
  exact ((erase_sublist u s).map Prod.fst).nodup hd

theorem keys_replace (u : Uid) (p : Pol) (s : St) : keys (replace u p s) = keys s := by
  induction s with
  | nil => rfl
  | cons x rest ih =>
    obtain ⟨k, v⟩ := x
    simp only [replace]
    split
    · rfl
    · simp only [keys, List.map_cons] at ih ⊢; rw [ih]

theorem distinct_replace (u : Uid) (p : Pol) (s : St) (hd : Distinct s) : Distinct (replace u p s) := by
  rw [distinct_iff_nodup] at hd ⊢
  rwa [keys_replace]

theorem distinct_snoc (u : Uid) (p : Pol) (s : St) (hd : Distinct s) (h : lookup u s = none) :
    Distinct (s ++ [(u, p)]) := by
  rw [distinct_iff_nodup] at hd ⊢
  rw [lookup_none_iff] at h
  simp only [keys, List.map_append, List.map_cons, List.map_nil, List.nodup_append, List.mem_singleton]
  exact ⟨hd, by simp, fun a ha b hb e => h (hb ▸ e ▸ ha)⟩

theorem lookup_some_iff_mem (u : Uid) (p : Pol) (s : St) (hd : Distinct s) :
    lookup u s = some p ↔ (u, p) ∈ s := by
  induction s with
  | nil => simp [lookup]
  | cons x rest ih =>
    obtain ⟨k, v⟩ := x
    simp only [lookup, List.mem_cons, Prod.mk.injEq]
    by_cases hk : k = u
    · subst hk
      simp only [↓reduceIte, Option.some.injEq, true_and]
      constructor
      · intro h; exact Or.inl h.symm
      · rintro (h | h)
        · exact h.symm
        · have := (lookup_none_iff k rest).1 hd.1
          exact absurd (List.mem_map.2 ⟨(k, p), h, rfl⟩) this
    · simp only [hk, ↓reduceIte, Ne.symm hk, false_and, false_or]
      exact ih hd.2

theorem lookup_perm (u : Uid) {s s' : St} (hp : s.Perm s') (hd : Distinct s) : lookup u s = lookup u s' :=
  Option.ext fun p => by
    rw [lookup_some_iff_mem u p s hd, lookup_some_iff_mem u p s' (distinct_perm hp hd), hp.mem_iff]

/-- two maps with the same bindings list the same pairs, up to order -/
theorem perm_of_same_lookup (s s' : St) (hd : Distinct s) (hd' : Distinct s')
    (h : ∀ u, lookup u s = lookup u s') : s.Perm s' := by
  -- distinct keys, hence distinct pairs
  have nd : ∀ t : St, Distinct t → t.Nodup := fun t hdt =>
    List.Pairwise.of_map Prod.fst (fun _ _ h e => h (congrArg Prod.fst e)) ((distinct_iff_nodup t).1 hdt)
  rw [List.perm_ext_iff_of_nodup (nd s hd) (nd s' hd')]
  rintro ⟨u, p⟩
  rw [← lookup_some_iff_mem u p s hd, ← lookup_some_iff_mem u p s' hd', h u]

theorem insertSorted_perm (x : Uid × Pol) (s : St) : (insertSorted x s).Perm (x :: s) := by
  induction s with
  | nil => simp [insertSorted]
  | cons y rest ih =>
    simp only [insertSorted]
    split
    · exact List.Perm.refl _
    · exact (List.Perm.cons y ih).trans (List.Perm.swap x y rest)

theorem sortUid_perm (s : St) : (sortUid s).Perm s := by
  induction s with
  | nil => simp [sortUid]
  | cons x rest ih =>
    simp only [sortUid]
    exact (insertSorted_perm x (sortUid rest)).trans (List.Perm.cons x ih)

theorem listing_perm (cfg : Cfg) (s : St) : (listing cfg s).Perm s := by
  unfold listing
  split
  · exact sortUid_perm s
  · exact List.Perm.refl s

theorem page_zero (xs : St) (o : Nat) : page xs 0 o = [] := by simp [page]

theorem page_beyond (xs : St) (l o : Nat) (h : xs.length < o) : page xs l o = [] := by
  unfold page
  rw [List.drop_eq_nil_of_le (by omega)]
  simp

theorem retrieveLoop_eq (l : St) (b : Nat) (hb : 0 < b) :
    ∀ fuel off, l.length - off < fuel → retrieveLoop l b fuel off = l.drop off := by
  intro fuel
  induction fuel with
  | zero => intro off h; omega
  | succ f ih =>
    intro off h
    simp only [retrieveLoop, page]
    by_cases hoff : l.length ≤ off
    · have : l.drop off = [] := List.drop_eq_nil_of_le hoff
      simp [this]
    · have hlt : off < l.length := Nat.lt_of_not_le hoff
      have hne : ((l.drop off).take b).isEmpty = false :=
        List.isEmpty_eq_false_iff.2 (List.ne_nil_of_length_pos (by rw [List.length_take, List.length_drop]; omega))
      simp only [hne, Bool.false_eq_true, ↓reduceIte]
      rw [ih (off + b) (by omega)]
      rw [← List.drop_drop]
      exact List.take_append_drop b (l.drop off)

theorem retrieveAll_eq (l : St) (b : Nat) (hb : 0 < b) : retrieveAll l b = l :=
  retrieveLoop_eq l b hb (l.length + 1) 0 (by omega)

theorem mem_of_mem_retrieveAll {l : St} {b : Nat} {x : Uid × Pol} (h : x ∈ retrieveAll l b) : x ∈ l := by
  cases b with
  -- batch size 0 retrieves nothing: the first page is empty
  | zero => simp [retrieveAll, retrieveLoop, page_zero] at h
  | succ n => rwa [retrieveAll_eq l _ (Nat.succ_pos n)] at h

section step
variable (cfg : Cfg) (s : St) (u : Uid) (p : Pol)

theorem step_add_false : step cfg s (.add u p false) = (s, .rejected) := rfl

theorem step_add_present {p0 : Pol} (h : lookup u s = some p0) : step cfg s (.add u p true) = (s, .existsErr) := by
  simp only [step, h]; rfl

theorem step_add_absent (h : lookup u s = none) : step cfg s (.add u p true) = (s ++ [(u, p)], .done) := by
  simp only [step, h]; rfl

theorem step_update_true : step cfg s (.update u p true) = (replace u p s, .done) := by
  simp only [step, Bool.not_true, Bool.and_false, Bool.false_eq_true, ↓reduceIte]
  cases h : lookup u s with
  | none => rw [replace_absent u p s h]
  | some _ => rfl

theorem step_update_false : step cfg s (.update u p false) =
    (s, if cfg.eagerConvert || (lookup u s).isSome then .rejected else .done) := by
  simp only [step, Bool.not_false, Bool.and_true, ↓reduceIte]
  cases cfg.eagerConvert <;> cases lookup u s <;> rfl

theorem step_getAll (l o : Int) : step cfg s (.getAll l o) =
    (s, if l < 0 ∨ o < 0 then .valueError else .pols (page (listing cfg s) l.toNat o.toNat)) := by
  simp only [step, Bool.or_eq_true, decide_eq_true_eq]; split <;> rfl

theorem step_retrieveAll (b : Int) : step cfg s (.retrieveAll b) =
    (s, if b < 0 then .valueError else .pols (retrieveAll (listing cfg s) b.toNat)) := by
  simp only [step]; split <;> rfl

theorem step_retrieveAll_nat (b : Nat) :
    step cfg s (.retrieveAll b) = (s, .pols (retrieveAll (listing cfg s) b)) := by
  rw [step_retrieveAll, if_neg (Int.not_lt.2 (Int.natCast_nonneg b)), Int.toNat_natCast]

theorem step_delete : step cfg s (.delete u) = (erase u s, .done) := rfl

theorem step_get : step cfg s (.get u) = (s, .pol (lookup u s)) := rfl

theorem step_fault : step cfg s .fault = (s, .rejected) := rfl

end step

theorem step_add_cases (cfg : Cfg) (s : St) (u : Uid) (p : Pol) (ok : Bool) :
    step cfg s (.add u p ok) = (s ++ [(u, p)], .done) ∨ step cfg s (.add u p ok) = (s, .existsErr) ∨
      step cfg s (.add u p ok) = (s, .rejected) := by
  cases ok
  · exact .inr (.inr (step_add_false cfg s u p))
  · cases hl : lookup u s with
    | none => exact .inl (step_add_absent cfg s u p hl)
    | some _ => exact .inr (.inl (step_add_present cfg s u p hl))

theorem step_update_cases (cfg : Cfg) (s : St) (u : Uid) (p : Pol) (ok : Bool) :
    (∃ s', step cfg s (.update u p ok) = (s', .done)) ∨ step cfg s (.update u p ok) = (s, .rejected) := by
  cases ok
  · rw [step_update_false]
    split
    · exact .inr rfl
    · exact .inl ⟨_, rfl⟩
  · exact .inl ⟨_, step_update_true cfg s u p⟩

theorem step_getAll_cases (cfg : Cfg) (s : St) (l o : Int) :
    step cfg s (.getAll l o) = (s, .valueError) ∨ ∃ pg, step cfg s (.getAll l o) = (s, .pols pg) := by
  rw [step_getAll]
  split
  · exact .inl rfl
  · exact .inr ⟨_, rfl⟩

theorem step_retrieveAll_cases (cfg : Cfg) (s : St) (b : Int) :
    step cfg s (.retrieveAll b) = (s, .valueError) ∨ ∃ pg, step cfg s (.retrieveAll b) = (s, .pols pg) := by
  rw [step_retrieveAll]
  split
  · exact .inl rfl
  · exact .inr ⟨_, rfl⟩

/-- what vakt's storages promise for `PolicyExistsError` and for a policy that cannot be converted: every branch of `step` that
changes the store ends in `done` -/
theorem step_unchanged (cfg : Cfg) (s : St) (op : Op) (h : (step cfg s op).2 ≠ .done) : (step cfg s op).1 = s := by
  cases op with
  | add u p ok =>
    rcases step_add_cases cfg s u p ok with e | e | e <;> rw [e] at h ⊢
    -- `rw` closes the failing outcomes; the one that returned contradicts `h`
    exact absurd rfl h
  | update u p ok =>
    rcases step_update_cases cfg s u p ok with ⟨s', e⟩ | e <;> rw [e] at h ⊢
    exact absurd rfl h
  | delete u => exact absurd rfl h
  | get u => rw [step_get]
  | getAll l o => rw [step_getAll]
  | retrieveAll b => rw [step_retrieveAll]
  | fault => rw [step_fault]

end Vakt.Store
