import Model.Stack
import Proofs.Store
/-! The decision cache is invisible, by one simulation over any machine whose raising mutations change nothing the guard sees and
keep the machine's invariant (`StackP.RaisedKeeps`, `StackP.InvKept`): a cache `Sound` for the uncached guard's present answers
stays so under every operation of a lawful back-end, and while it is, a cached step moves like an uncached one.
The cached guard of C11 is the instance over the plain storage. -/
namespace Vakt.CachedGuard
open Vakt.Store
variable {κ σ : Type}

/-- `C11.Valid` and `StackP.Valid` are this for `f` the uncached guard's present answers (`valid_iff_sound` in each) -/
def Sound (mem : σ → κ → Bool → Prop) (f : κ → Bool) (c : σ) : Prop := ∀ k v, mem c k v → v = f k

theorem Backend.Lawful.sound_init {b : Backend κ σ} {mem : σ → κ → Bool → Prop} (hl : b.Lawful mem) (f : κ → Bool) :
    Sound mem f b.init :=
  fun k v h => absurd h (hl.mem_init k v)

theorem raised_unchanged (cfg : Cfg) (s : St) (op : Op) (h : raised (Store.step cfg s op).2 = true) :
    (Store.step cfg s op).1 = s :=
  step_unchanged cfg s op fun e => by rw [e] at h; cases h

end Vakt.CachedGuard

namespace Vakt.StackP
open Vakt.Store Vakt.CachedGuard Vakt.Stack
variable {Ω : Type}

/-- a mutation call that raised left the candidates as they were -/
def RaisedKeeps (M : Machine Ω) (Inv : Ω → Prop) : Prop :=
  ∀ s op, Inv s → raised (M.mutate s op).2 = true → M.cands (M.mutate s op).1 = M.cands s

def InvKept (M : Machine Ω) (Inv : Ω → Prop) : Prop := ∀ s op, Inv s → Inv (M.mutate s op).1

end Vakt.StackP

namespace Vakt.Stack
open Vakt.Store Vakt.CachedGuard
variable {Ω κ σ : Type}

/-- one operation against the uncached guard -/
def plainStep (M : Machine Ω) (answer : St → κ → Bool) (s : Ω) : COp κ → Ω × Option Bool
  | .mutate o => ((M.mutate s o).1, none)
  | .read => (s, none)
  | .ask k => (s, some (answer (M.cands s) k))

theorem runPlainM_cons (M : Machine Ω) (answer : St → κ → Bool) (s : Ω) (op : COp κ) (rest : List (COp κ)) :
    runPlainM M answer s (op :: rest) =
      ((runPlainM M answer (plainStep M answer s op).1 rest).1,
       (plainStep M answer s op).2 :: (runPlainM M answer (plainStep M answer s op).1 rest).2) := by
  cases op <;> rfl

section sim
variable (M : Machine Ω) (Inv : Ω → Prop) (hk : StackP.RaisedKeeps M Inv) (hi : StackP.InvKept M Inv)
  (answer : St → κ → Bool) {b : Backend κ σ} {mem : σ → κ → Bool → Prop} (hl : b.Lawful mem)
include hk hi hl

theorem step_sim (g : SG Ω σ) (op : COp κ) (hinv : Inv g.st) (hv : Sound mem (answer (M.cands g.st)) g.cache) :
    ((step M answer b g op).1.st, (step M answer b g op).2) = plainStep M answer g.st op ∧
    Inv (step M answer b g op).1.st ∧
    Sound mem (answer (M.cands (step M answer b g op).1.st)) (step M answer b g op).1.cache := by
  cases op with
  | mutate o =>
    simp only [step, plainStep]
    -- a mutation that raised keeps the cache, so it must not have changed what the guard sees (`hk`); one that returned clears it
    split
    · rename_i hr
      exact ⟨rfl, hi _ _ hinv, by rw [hk _ _ hinv hr]; exact hv⟩
    · exact ⟨rfl, hi _ _ hinv, fun k v h => absurd h (hl.mem_clear _ k v)⟩
  | read => exact ⟨rfl, hinv, hv⟩
  | ask k =>
    simp only [step, plainStep]
    split
    · rename_i v c' hlk
      exact ⟨by rw [hv k v (hl.hit_mem _ _ _ _ hlk)], hinv, fun k' v' hm => hv k' v' (hl.hit_sub _ _ _ _ _ _ hlk hm)⟩
    · refine ⟨rfl, hinv, fun k' v' hm => ?_⟩
      rcases hl.mem_put _ _ _ _ _ hm with ⟨rfl, rfl⟩ | hm
      · rfl
      · exact hv k' v' hm

theorem run_sim (ops : List (COp κ)) : ∀ g : SG Ω σ, Inv g.st → Sound mem (answer (M.cands g.st)) g.cache →
    ((run M answer b g ops).1.st, (run M answer b g ops).2) = runPlainM M answer g.st ops := by
  induction ops with
  | nil => intro g _ _; rfl
  | cons op rest ih =>
    intro g hinv hv
    obtain ⟨h1, h2, h3⟩ := step_sim M Inv hk hi answer hl g op hinv hv
    rw [runPlainM_cons, ← h1, ← ih _ h2 h3]
    rfl

end sim

end Vakt.Stack

namespace Vakt.CachedGuard
open Vakt.Store Vakt.Stack
variable {κ σ : Type}

/-- the cached guard as the stack over a plain storage -/
def toSG (g : CG σ) : SG St σ := ⟨g.store, g.cache, g.notifications, g.storageAsks⟩

theorem step_toSG (cfg : Cfg) (answer : St → κ → Bool) (b : Backend κ σ) (g : CG σ) (op : COp κ) :
    Stack.step (plainMachine cfg) answer b (toSG g) op = (toSG (step cfg answer b g op).1, (step cfg answer b g op).2) := by
  cases op with
  | mutate o =>
    cases hr : raised (Store.step cfg g.store o).2 <;>
      simp only [Stack.step, step, plainMachine, toSG, hr, Bool.false_eq_true, ↓reduceIte]
  | read => rfl
  | ask k =>
    simp only [Stack.step, step, toSG]
    cases b.lookup g.cache k <;> rfl

theorem run_toSG (cfg : Cfg) (answer : St → κ → Bool) (b : Backend κ σ) (ops : List (COp κ)) : ∀ g : CG σ,
    Stack.run (plainMachine cfg) answer b (toSG g) ops = (toSG (run cfg answer b g ops).1, (run cfg answer b g ops).2) := by
  induction ops with
  | nil => intro g; rfl
  | cons op rest ih => intro g; simp only [Stack.run, run, step_toSG, ih]

theorem runPlainM_plain (cfg : Cfg) (answer : St → κ → Bool) (ops : List (COp κ)) : ∀ s : St,
    runPlainM (plainMachine cfg) answer s ops = runPlain cfg answer s ops := by
  induction ops with
  | nil => intro s; rfl
  | cons op rest ih => intro s; cases op <;> simp only [runPlainM, runPlain, ih] <;> rfl

end Vakt.CachedGuard
