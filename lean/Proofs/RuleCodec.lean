import Model.RuleCodec
import Proofs.MapOpt
import Proofs.Serialize
import Proofs.Lits
import Proofs.InquiryEq  -- `distinctKeys_iff`, for `classes_nodup`
/-! The rule codec round trip: the class paths are pairwise distinct, so the class index comes back; one decoding step on an
encoded rule, by shape of rule, then induction on the fuel.  Rule arguments go through the value codec of `Proofs/Serialize.lean`
(`noReserved` implies `noTags`). -/
namespace Vakt.RuleCodec
open Vakt PyVal Serialize

/-- the class paths as character lists (see `Proofs/Lits.lean`) -/
def classChars : { ls // Chars Generated.ruleClasses ls } := ⟨_, by (repeat apply Chars.cons); exact .nil⟩

/-- the class paths are pairwise different (so the class path determines the constructor) -/
theorem classes_nodup : classes.Nodup := by
  rw [classes, classChars.2.map_toList]
  exact (distinctKeys_iff _).1 (by decide +kernel)

theorem classes_length : classes.length = 34 := by decide

theorem clsIndex_cls {i : Nat} (h : i < 34) : clsIndex (cls i) = i := by
  rw [← classes_length] at h
  rw [cls, List.getD_eq_getElem?_getD, List.getElem?_eq_getElem h]
  exact classes_nodup.idxOf_getElem i h

theorem kVal_ne : kVal ≠ Generated.objectTag := toList_ne (by simp)
theorem kCi_ne : kCi ≠ Generated.objectTag := toList_ne (by simp)
theorem kCi_ne_val : kCi ≠ kVal := toList_ne (by simp)
theorem kData_ne : kData ≠ Generated.objectTag := toList_ne (by simp)
theorem kRules_ne : kRules ≠ Generated.objectTag := toList_ne (by simp)
theorem kRule_ne : kRule ≠ Generated.objectTag := toList_ne (by simp)
theorem kRegex_ne : kRegex ≠ Generated.objectTag := toList_ne (by simp)
theorem kPattern_ne : kPattern ≠ Generated.objectTag := toList_ne (by simp)
theorem kCidr_ne : kCidr ≠ Generated.objectTag := toList_ne (by simp)
theorem kAttribute_ne : kAttribute ≠ Generated.objectTag := toList_ne (by simp)
theorem kAnswer_ne : kAnswer ≠ Generated.objectTag := toList_ne (by simp)

theorem tagTuple_reserved : (Generated.reservedTags.map String.toList).contains tagTuple = true :=
  List.contains_iff_mem.2 (List.mem_map_of_mem (by simp [Generated.reservedTags]))

mutual
theorem noReserved_noTags : ∀ v : PyVal, noReserved v = true → noTags v = true
  | .none, _ => rfl
  | .bool _, _ => rfl
  | .int _, _ => rfl
  | .flt _ _, _ => rfl
  | .str _, _ => rfl
  | .list xs, h => by simp only [noReserved] at h; simp only [noTags]; exact noReservedList_noTags xs h
  | .tuple xs, h => by simp only [noReserved] at h; simp only [noTags]; exact noReservedList_noTags xs h
  | .dict kvs, h => by simp only [noReserved] at h; simp only [noTags]; exact noReservedKVs_noTags kvs h
theorem noReservedList_noTags : ∀ xs : List PyVal, noReservedList xs = true → noTagsList xs = true
  | [], _ => rfl
  | x :: xs, h => by
    simp only [noReservedList, Bool.and_eq_true] at h
    simp only [noTagsList, Bool.and_eq_true]
    exact ⟨noReserved_noTags x h.1, noReservedList_noTags xs h.2⟩
theorem noReservedKVs_noTags : ∀ kvs : List (List Char × PyVal), noReservedKVs kvs = true → noTagsKVs kvs = true
  | [], _ => rfl
  | (k, v) :: rest, h => by
    simp only [noReservedKVs, Bool.and_eq_true, Bool.not_eq_true'] at h
    simp only [noTagsKVs, Bool.and_eq_true, bne_iff_ne, ne_eq]
    refine ⟨⟨?_, noReserved_noTags v h.1.2⟩, noReservedKVs_noTags rest h.2⟩
    intro e
    subst e
    rw [tagTuple_reserved] at h
    exact absurd h.1.1 (by simp)
end

theorem dec_enc_val_of_noReserved (v : PyVal) (h : noReserved v = true) : decVal (encVal v) = v :=
  dec_enc_val v (noReserved_noTags v h)

theorem encVal_ne_none (v : PyVal) (h : v ≠ .none) : encVal v ≠ .none := by
  cases v <;> simp_all [encVal]

theorem getSet_enc (d : List PyVal) (h : noReservedList d = true) (c : PyVal) :
    getSet [(Generated.objectTag, c), (kData, .dict [(tagSet, .list (encList d))])] = some d := by
  simp only [getSet, lookup_cons_ne kData_ne, lookup_cons_self, ↓reduceIte, dec_enc_list d (noReservedList_noTags d h)]

theorem getStrCi_enc (v : List Char) (ci : Bool) (c : PyVal) :
    getStrCi [(Generated.objectTag, c), (kVal, .str v), (kCi, .bool ci)] = some (v, ci) := by
  simp only [getStrCi, lookup_cons_ne kVal_ne, lookup_cons_ne kCi_ne, lookup_cons_ne kCi_ne_val, lookup_cons_self]

theorem getAttr_enc (a : Option PyVal) (h : attrWf a = true) (c : PyVal) :
    getAttr [(Generated.objectTag, c), (kAttribute, encAttr a)] = some a := by
  cases a with
  | none => simp only [getAttr, encAttr, lookup_cons_ne kAttribute_ne, lookup_cons_self]
  | some v =>
    have hv : v ≠ .none := by intro e; subst e; simp [attrWf] at h
    have hr : noReserved v = true := by cases v <;> simp_all [attrWf]
    have hne := encVal_ne_none v hv   -- found by `simp`'s discharger: the side condition of the `some v` alternative of `getAttr`
    simp only [getAttr, encAttr, lookup_cons_ne kAttribute_ne, lookup_cons_self]
    rw [dec_enc_val_of_noReserved v hr]

theorem decRule_enc (n : Nat) (r : Rule) : Rule.wf r = true →
    decRule (n + 1) (encRule r) = match r with
      | .and rs => (mapOpt (decRule n) (encRules rs)).map .and
      | .or rs => (mapOpt (decRule n) (encRules rs)).map .or
      | .not r => (decRule n (encRule r)).map .not
      | r => some r := by
  intro h
  have hf : ∀ f, fieldIdx f < 34 := fun f => by cases f <;> decide
  cases r
  -- the class index is made a literal before the 34-way match on it is touched, and `rfl` then selects the branch: `simp` would
  -- try the equations of the match one after another and unfold the matcher at each that fails
  all_goals
    simp only [encRule, obj]
    rw [decRule, lookup_cons_self]
    dsimp only
    rw [clsIndex_cls (by first | decide | exact hf _)]
  case eq v | notEq v | greater v | less v | greaterOrEqual v | lessOrEqual v =>
    rw [lookup_cons_ne kVal_ne, lookup_cons_self, Option.map_some, dec_enc_val_of_noReserved v h]; rfl
  case cidr v =>
    rw [lookup_cons_ne kCidr_ne, lookup_cons_self, Option.map_some, dec_enc_val_of_noReserved v h]; rfl
  case isIn d | notIn d | allIn d | allNotIn d | anyIn d | anyNotIn d =>
    rw [getSet_enc d h]; rfl
  case truthy | falsy | any | neither | pairsEqual | subjectEqual | actionEqual | resourceIn | raising => rfl
  case and rs | or rs =>
    rw [lookup_cons_ne kRules_ne, lookup_cons_self]
    exact congrArg (Option.map _) (if_pos rfl)
  case not r =>
    rw [lookup_cons_ne kRule_ne, lookup_cons_self]; rfl
  case strEqual v ci | startsWith v ci | endsWith v ci | contains v ci =>
    rw [getStrCi_enc]; rfl
  case regexMatch p =>
    rw [lookup_cons_ne kRegex_ne, lookup_cons_self]
    dsimp only
    rw [lookup_cons_self, lookup_cons_ne kPattern_ne, lookup_cons_self]
    exact if_pos rfl
  case inqMatch f a =>
    rw [getAttr_enc a h]; cases f <;> rfl
  case constant b =>
    rw [lookup_cons_ne kAnswer_ne, lookup_cons_self]; rfl

theorem depth_pos (r : Rule) : 0 < Rule.depth r := by
  cases r <;> exact Nat.succ_pos _

theorem dec_enc_rules (n : Nat) (ih : ∀ r, Rule.wf r = true → Rule.depth r ≤ n → decRule n (encRule r) = some r) :
    ∀ rs : List Rule, wfList rs = true → depthList rs ≤ n → mapOpt (decRule n) (encRules rs) = some rs
  | [], _, _ => rfl
  | r :: rs, h, hd => by
    rw [wfList, Bool.and_eq_true] at h
    rw [depthList, Nat.max_le] at hd
    rw [encRules, mapOpt, ih r h.1 hd.1, dec_enc_rules n ih rs h.2 hd.2]

/-- by induction on the fuel: one unit per nesting level -/
theorem dec_enc_rule : ∀ (n : Nat) (r : Rule), Rule.wf r = true → Rule.depth r ≤ n → decRule n (encRule r) = some r
  | 0, r, _, hd => absurd hd (Nat.not_le.2 (depth_pos r))
  | n + 1, r, h, hd => by
    rw [decRule_enc n r h]
    cases r
    case and rs | or rs =>
      rw [Rule.depth, Nat.add_le_add_iff_right] at hd
      exact congrArg (Option.map _) (dec_enc_rules n (dec_enc_rule n) rs h hd)
    case not r =>
      rw [Rule.depth, Nat.add_le_add_iff_right] at hd
      exact congrArg (Option.map Rule.not) (dec_enc_rule n r h hd)
    all_goals rfl

theorem elemsWf_mem : ∀ {es : List Elem}, elemsWf es = true → ∀ e ∈ es, Elem.wf e = true
  | _ :: _, h, e, he => by
    rw [elemsWf, Bool.and_eq_true] at h
    rcases List.mem_cons.1 he with rfl | he
    · exact h.1
    · exact elemsWf_mem h.2 e he

theorem elemsDepth_mem {n : Nat} : ∀ {es : List Elem}, elemsDepth es ≤ n → ∀ e ∈ es, Elem.depth e ≤ n
  | _ :: _, h, e, he => by
    rw [elemsDepth, Nat.max_le] at h
    rcases List.mem_cons.1 he with rfl | he
    · exact h.1
    · exact elemsDepth_mem h.2 e he

theorem encRule_obj (r : Rule) : ∃ i attrs, encRule r = obj i attrs := by
  cases r <;> exact ⟨_, _, rfl⟩

theorem dec_enc_attrs : ∀ (kvs : List (List Char × AttrVal)), attrsWf kvs = true → ∀ n, attrsDepth kvs ≤ n →
    decAttrs n (encAttrs kvs) = some kvs
  | [], _, _, _ => rfl
  | (k, .rule r) :: rest, h, n, hd => by
    simp only [attrsWf, Bool.and_eq_true] at h
    rw [attrsDepth, Nat.max_le] at hd
    rw [encAttrs, decAttrs, dec_enc_rule n r h.1.2 hd.1, dec_enc_attrs rest h.2 n hd.2]
  | (k, .junk) :: rest, h, _, _ => by simp [attrsWf] at h

theorem lookup_obj_encAttrs : ∀ (kvs : List (List Char × AttrVal)), attrsWf kvs = true →
    lookup Generated.objectTag (encAttrs kvs) = Option.none
  | [], _ => rfl
  | (k, .rule r) :: rest, h => by
    simp only [attrsWf, Bool.and_eq_true, bne_iff_ne, ne_eq] at h
    have hk : ¬ Generated.objectTag = k := fun e => h.1.1 e.symm
    rw [encAttrs, lookup_cons_ne hk]
    exact lookup_obj_encAttrs rest h.2
  | (k, .junk) :: rest, h => by simp [attrsWf] at h

theorem dec_enc_elem (e : Elem) (h : Elem.wf e = true) (n : Nat) (hd : Elem.depth e ≤ n) :
    decElem n (encElem e) = some e := by
  cases e with
  | str s => rfl
  | rule r =>
    obtain ⟨i, attrs, hr⟩ := encRule_obj r
    have hrt := dec_enc_rule n r h hd
    rw [hr] at hrt
    rw [encElem, hr, obj, decElem, lookup_cons_self, Option.isSome_some, if_pos rfl, ← obj, hrt]; rfl
  | attrs kvs =>
    simp only [encElem, decElem, lookup_obj_encAttrs kvs h, Option.isSome_none, Bool.false_eq_true, ↓reduceIte,
      dec_enc_attrs kvs h n hd, Option.map]

theorem dec_enc_elems (es : List Elem) (hw : elemsWf es = true) (n : Nat) (hd : elemsDepth es ≤ n) :
    mapOpt (decElem n) (es.map encElem) = some es :=
  mapOpt_map es fun e he => dec_enc_elem e (elemsWf_mem hw e he) n (elemsDepth_mem hd e he)

end Vakt.RuleCodec
