/-! The kernel evaluates `"…".toList` by decoding the literal's UTF-8 bytes, in time quadratic in its length.  But a literal *is*
`String.ofList` of its characters (a check that costs nothing) and `String.toList_ofList` is a theorem: so the generated tables of
literals are read by unification (`Chars`), and literal document keys (`"uid".toList`) are compared as strings, never decoded. -/
namespace Vakt

/-- unification finds `ls` when `repeat apply Chars.cons` walks a table of literals `ss` -/
inductive Chars : List String → List (List Char) → Prop
  | nil : Chars [] []
  | cons {l ss ls} : Chars ss ls → Chars (String.ofList l :: ss) (l :: ls)

theorem Chars.map_toList {ss ls} (h : Chars ss ls) : ss.map String.toList = ls := by
  induction h with
  | nil => rfl
  | cons _ ih => rw [List.map_cons, String.toList_ofList, ih]

/-- `h` is `by simp` (`String.reduceEq` compares the literals; `decide` would have the kernel decode both).  A `simp only` over a
document with literal keys takes `String.toList_inj, String.reduceEq` for the same comparison; default `simp` would first turn
`"k".toList` into its characters by `rfl`, which the kernel checks by decoding. -/
theorem toList_ne {a b : String} (h : a ≠ b) : a.toList ≠ b.toList := mt String.toList_injective h

end Vakt
