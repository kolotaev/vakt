import Model.Backends
import Proofs.Store
/-! `Model/Backends.lean` against the abstract store: a Python dict is the association list, a slice is a page, a `get_all` that
pages a fixed listing makes the inherited `retrieve_all` loop the store's `retrieveAll`; the Redis hash is read through `deserialize`. -/
namespace Vakt.Backends
open Vakt.Store

theorem dictGet_eq_lookup (u : Uid) (s : St) : dictGet u s = lookup u s := by
  induction s with
  | nil => rfl
  | cons kv rest ih => obtain ⟨k, v⟩ := kv; simp only [dictGet, lookup, ih]

theorem dictDel_eq_erase (u : Uid) (s : St) : dictDel u s = erase u s := by
  induction s with
  | nil => rfl
  | cons kv rest ih => obtain ⟨k, v⟩ := kv; simp only [dictDel, erase, ih]

theorem dictSet_eq (u : Uid) (p : Pol) (s : St) :
    dictSet u p s = match lookup u s with | some _ => replace u p s | none => s ++ [(u, p)] := by
  induction s with
  | nil => rfl
  | cons kv rest ih =>
    obtain ⟨k, v⟩ := kv
    simp only [dictSet, lookup, replace]
    split
    · rfl
    · rw [ih]; split <;> rfl

theorem pySlice_eq_page (xs : St) (l o : Nat) : pySlice xs o (l + o) = page xs l o := by
  unfold pySlice page
  rw [List.drop_take]
  congr 1
  omega

theorem islice_eq_page (xs : St) (l o : Nat) : islice xs o (l + o) = page xs l o := by
  unfold islice page
  congr 1
  omega

theorem pySlice_map {α β : Type} (f : α → β) (xs : List α) (a b : Nat) : pySlice (xs.map f) a b = (pySlice xs a b).map f := by
  simp only [pySlice, List.map_drop, List.map_take]

theorem islice_nodup (h : RHash) (a b : Nat) (hn : (h.map (·.1)).Nodup) : ((islice h a b).map (·.1)).Nodup := by
  unfold islice
  rw [List.map_take, List.map_drop]
  exact (hn.sublist (List.drop_sublist _ _)).sublist (List.take_sublist _ _)

theorem checkLimitOffset_false {l o : Int} (h : checkLimitOffset l o = false) : 0 ≤ l ∧ 0 ≤ o := by
  simp only [checkLimitOffset, Bool.or_eq_false_iff, decide_eq_false_iff_not, Int.not_lt] at h
  exact h

/-- all four backends' `get_all` open with `_check_limit_and_offset`; `h` is the rest of the body on non-negative arguments -/
theorem paged_guard (l o : Int) (x : Option St) (L : St) (h : 0 ≤ l → 0 ≤ o → x = some (page L l.toNat o.toNat)) :
    (if checkLimitOffset l o then none else x) = if l < 0 ∨ o < 0 then none else some (page L l.toNat o.toNat) := by
  have hc : checkLimitOffset l o = true ↔ l < 0 ∨ o < 0 := by simp [checkLimitOffset]
  by_cases hn : l < 0 ∨ o < 0
  · rw [if_pos (hc.2 hn), if_pos hn]
  · rw [if_neg (fun e => hn (hc.1 e)), if_neg hn]
    exact h (by omega) (by omega)

/-- a `get_all` that validates its arguments and otherwise cuts a page out of a fixed listing -/
def IsPaged (ga : Int → Int → Option St) (L : St) : Prop :=
  ∀ l o : Int, ga l o = if l < 0 ∨ o < 0 then none else some (page L l.toNat o.toNat)

theorem retrLoop_paged (ga : Int → Int → Option St) (L : St) (hg : IsPaged ga L) (b : Int) (hb : 0 ≤ b) :
    ∀ (f : Nat) (off : Nat), retrLoop ga b f (off : Int) = some (retrieveLoop L b.toNat f off) := by
  intro f
  induction f with
  | zero => intro off; rfl
  | succ n ih =>
    intro off
    have h1 : ¬ (b < 0 ∨ (off : Int) < 0) := by omega
    simp only [retrLoop, hg b off, h1, ↓reduceIte, retrieveLoop, Int.toNat_natCast]
    by_cases he : (page L b.toNat off).isEmpty
    · simp [he]
    · have hcast : ((off : Int) + b) = ((off + b.toNat : Nat) : Int) := by omega
      simp only [he, Bool.false_eq_true, ↓reduceIte]
      rw [hcast, ih (off + b.toNat)]

/-- the whole `retrieve_all` of a paged `get_all` is the abstract store's `retrieveAll`, or `ValueError` -/
theorem retr_paged (ga : Int → Int → Option St) (L : St) (hg : IsPaged ga L) (b : Int) :
    retrLoop ga b (L.length + 1) 0 = if b < 0 then none else some (retrieveAll L b.toNat) := by
  by_cases hb : b < 0
  · simp [hb, retrLoop, hg b 0]
  · have := retrLoop_paged ga L hg b (by omega) (L.length + 1) 0
    simp only [hb, ↓reduceIte]
    rw [retrieveAll, ← this]
    rfl

def listOut : Option St → Out
  | none => .valueError
  | some l => .pols l

theorem step_getAll_paged {ga : Int → Int → Option St} (cfg : Cfg) (s : St) (hg : IsPaged ga (listing cfg s))
    (l o : Int) : Store.step cfg s (.getAll l o) = (s, listOut (ga l o)) := by
  rw [step_getAll, hg l o]; split <;> rfl

theorem step_retrieveAll_paged {ga : Int → Int → Option St} (cfg : Cfg) (s : St) (hg : IsPaged ga (listing cfg s))
    {n : Nat} (hn : (listing cfg s).length = n) (b : Int) :
    Store.step cfg s (.retrieveAll b) = (s, listOut (retrLoop ga b (n + 1) 0)) := by
  rw [step_retrieveAll, ← hn, retr_paged ga _ hg b]; split <;> rfl

theorem step_mutation_cases (cfg : Cfg) (s : St) (op : Op) (h : isMutation op = true) :
    (Store.step cfg s op).2 = .done ∨ (Store.step cfg s op).2 = .existsErr ∨ (Store.step cfg s op).2 = .rejected := by
  cases op with
  | add u p ok =>
    rcases step_add_cases cfg s u p ok with e | e | e <;> rw [e]
    · exact .inl rfl
    · exact .inr (.inl rfl)
    · exact .inr (.inr rfl)
  | update u p ok =>
    rcases step_update_cases cfg s u p ok with ⟨s', e⟩ | e <;> rw [e]
    · exact .inl rfl
    · exact .inr (.inr rfl)
  | delete u => exact .inl rfl
  | _ => cases h

theorem feed_append (sr : Ser) (h : RHash) (u : Uid) (b : Bytes) :
    feed sr (h ++ [(u, b)]) = feed sr h ++ [(u, sr.deser b)] := by simp [feed]

theorem lookup_feed (sr : Ser) (u : Uid) (h : RHash) : lookup u (feed sr h) = (dictGet u h).map sr.deser := by
  induction h with
  | nil => rfl
  | cons kv rest ih =>
    obtain ⟨k, v⟩ := kv
    simp only [feed, List.map_cons, lookup, dictGet] at ih ⊢
    split
    · rfl
    · exact ih

theorem feed_dictDel (sr : Ser) (u : Uid) (h : RHash) : feed sr (dictDel u h) = erase u (feed sr h) := by
  induction h with
  | nil => rfl
  | cons kv rest ih =>
    obtain ⟨k, v⟩ := kv
    simp only [feed, List.map_cons, dictDel, erase] at ih ⊢
    split
    · rfl
    · simp [ih]

theorem feed_dictSet (sr : Ser) (u : Uid) (b : Bytes) (h : RHash) :
    feed sr (dictSet u b h) = dictSet u (sr.deser b) (feed sr h) := by
  induction h with
  | nil => rfl
  | cons kv rest ih =>
    obtain ⟨k, v⟩ := kv
    simp only [feed, List.map_cons, dictSet] at ih ⊢
    split
    · rfl
    · simp [ih]

theorem feed_page (sr : Ser) (h : RHash) (l o : Nat) :
    feed sr ((h.drop o).take l) = page (feed sr h) l o := by
  simp [feed, page, List.map_take, List.map_drop]

theorem feed_length (sr : Ser) (h : RHash) : (feed sr h).length = h.length := by simp [feed]

/-- the invariant of the Redis hash: `get` reads an empty value as "no such policy" (`if not ret`) -/
def NonEmptyVals (h : RHash) : Prop := ∀ kv ∈ h, kv.2 ≠ []

theorem dictGet_mem (u : Uid) (b : α) (h : List (Uid × α)) (hg : dictGet u h = some b) : (u, b) ∈ h := by
  induction h with
  | nil => simp [dictGet] at hg
  | cons kv rest ih =>
    obtain ⟨k, v⟩ := kv
    simp only [dictGet] at hg
    split at hg
    · rename_i hk; cases hg; simp [hk]
    · exact List.mem_cons_of_mem _ (ih hg)

theorem mem_dictSet (u : Uid) (b : α) (h : List (Uid × α)) (kv : Uid × α) (hm : kv ∈ dictSet u b h) :
    kv ∈ h ∨ kv = (u, b) := by
  induction h with
  | nil => exact .inr (List.mem_singleton.1 hm)
  | cons x rest ih =>
    obtain ⟨k, v⟩ := x
    simp only [dictSet] at hm
    split at hm
    · rename_i hk
      rcases List.mem_cons.1 hm with rfl | e
      · exact .inr (hk ▸ rfl)
      · exact .inl (List.mem_cons_of_mem _ e)
    · rcases List.mem_cons.1 hm with rfl | e
      · exact .inl List.mem_cons_self
      · exact (ih e).imp_left (List.mem_cons_of_mem _)

theorem mem_dictDel (u : Uid) (h : List (Uid × α)) (kv : Uid × α) (hm : kv ∈ dictDel u h) : kv ∈ h := by
  induction h with
  | nil => simp [dictDel] at hm
  | cons x rest ih =>
    obtain ⟨k, v⟩ := x
    simp only [dictDel] at hm
    split at hm
    · exact List.mem_cons_of_mem _ hm
    · rcases List.mem_cons.1 hm with rfl | e
      · exact List.mem_cons_self
      · exact List.mem_cons_of_mem _ (ih e)

theorem nonEmpty_append (h : RHash) (u : Uid) (b : Bytes) (hb : b ≠ []) (hi : NonEmptyVals h) :
    NonEmptyVals (h ++ [(u, b)]) := by
  intro kv hm
  rcases List.mem_append.1 hm with e | e
  · exact hi kv e
  · simp at e; rw [e]; exact hb

theorem nonEmpty_dictSet (h : RHash) (u : Uid) (b : Bytes) (hb : b ≠ []) (hi : NonEmptyVals h) :
    NonEmptyVals (dictSet u b h) := by
  intro kv hm
  rcases mem_dictSet u b h kv hm with e | e
  · exact hi kv e
  · rw [e]; exact hb

theorem nonEmpty_dictDel (h : RHash) (u : Uid) (hi : NonEmptyVals h) : NonEmptyVals (dictDel u h) :=
  fun kv hm => hi kv (mem_dictDel u h kv hm)

end Vakt.Backends
