import Gen.Checkers
import Gen.Lemmas
/-!
# The translated `RulesChecker.fits` is the model's `rulesFits`

`/repo/vakt/checker.py` (`Gen/Checkers.lean`); so the theorems of `Props/C04.lean` are theorems about the method as written in the source.
-/
namespace Vakt.GenEquiv
open Vakt PyVal Vakt.PyPrim Vakt.GenCheckers

theorem typeIsDictM_rule (r : Rule) : typeIsDictM (.ok (.rule r)) = .ok (.py (.bool false)) := rfl
theorem hasSatisfiedM_rule (r : Rule) : hasSatisfiedM (.ok (.rule r)) = .ok (.py (.bool true)) := rfl

theorem check_satisfied_rule (r : Rule) (w : PyVal) (q : Option Inquiry) :
    check_satisfied_RulesChecker (.rule r) (.py w) (.inq q) = .ok (.py (.bool (checkSatisfied (.rule r) w q))) := by
  unfold check_satisfied_RulesChecker checkSatisfied
  rw [pure_ok, pure_ok, pure_ok, methSatisfied_ok]
  dsimp only
  cases Rule.eval r w q <;> rfl

/-- `_check_satisfied`: the rule's answer, or `False` when anything is raised -/
theorem check_satisfied_eval (a : AttrVal) (w : PyVal) (q : Option Inquiry) :
    check_satisfied_RulesChecker (attrValV a) (.py w) (.inq q) = .ok (.py (.bool (checkSatisfied a w q))) := by
  cases a with
  | junk => rfl
  | rule r => exact check_satisfied_rule r w q

/-- the body of the inner loop (over one attribute dictionary) -/
def attrBody (w : PyVal) (q : Option Inquiry) : V → List V → (List V → M) → (List V → M) → M :=
  fun l2_pair _ k2 b2 =>
      (bindM (seqItemM (pure l2_pair) 0) fun l2_key =>
      (bindM (seqItemM (pure l2_pair) 1) fun l2_rule =>
      (iteM (pyNot (pure (V.py (.bool (isDict w)))))
      (bindM cFalse fun v_item_result =>
      (iteM (pyNot (pure v_item_result))
      (b2 [v_item_result])
      (k2 [v_item_result])))
      (iteM (cmpNotIn (pure l2_key) (pure (V.py w)))
      (bindM cFalse fun v_item_result =>
      (iteM (pyNot (pure v_item_result))
      (b2 [v_item_result])
      (k2 [v_item_result])))
      (bindM (subscriptM (pure (V.py w)) (pure l2_key)) fun v_what_value =>
      (bindM (bindM (pure l2_rule) fun a3 => (bindM (pure v_what_value) fun a4 => (bindM (pure (V.inq q)) fun a5 => (check_satisfied_RulesChecker a3 a4 a5)))) fun v_item_result =>
      (iteM (pyNot (pure v_item_result))
      (b2 [v_item_result])
      (k2 [v_item_result]))))))))

/-- one entry of an attribute dictionary: go on with `True` when the model's `attrStep` holds, else `break` with `False` -/
theorem attrBody_step (w : PyVal) (q : Option Inquiry) (k : List Char) (a : AttrVal) (st : List V)
    (kc bc : List V → M) :
    attrBody w q (pairV (k, a)) st kc bc =
      if attrStep w q k a then kc [V.py (.bool true)] else bc [V.py (.bool false)] := by
  cases w with
  | dict d =>
    simp only [attrBody, pairV, pure_ok, seqItemM_zero, seqItemM_one, bindM_ok, cmpNotIn_dict, subscriptM_dict]
    cases hl : lookup k d with
    | none => simp only [attrStep, hl]; rfl
    | some v =>
      simp only [attrStep, hl, bindM_ok, check_satisfied_eval]
      cases checkSatisfied a v q <;> rfl
  | _ => rfl

theorem attr_loop (w : PyVal) (q : Option Inquiry) (kvs : List (List Char × AttrVal)) (acc : Bool) (rest : List V → M) :
    loopS (kvs.map pairV) (attrBody w q) [V.py (.bool acc)] rest = rest [V.py (.bool (attrsLoop w q kvs acc))] := by
  induction kvs generalizing acc with
  | nil => rfl
  | cons kv tail ih =>
    rw [List.map_cons, loopS, attrBody_step, attrsLoop]
    cases attrStep w q kv.1 kv.2
    · rfl
    · exact ih true

/-- the body of the outer loop (over the elements of the field) -/
def rulesBody (w : PyVal) (q : Option Inquiry) : V → M → M := fun l1_i k1 =>
      (bindM cFalse fun v_item_result =>
      (iteM (typeIsDictM (pure l1_i))
      (pyForS (attrsItemsM (pure l1_i)) (attrBody w q)
      [v_item_result]
      (fun r2 => (iteM (pure (stGet r2 0))
      cTrue
      k1)))
      (iteM (hasSatisfiedM (pure l1_i))
      (bindM (bindM (pure l1_i) fun a6 => (bindM (pure (V.py w)) fun a7 => (bindM (pure (V.inq q)) fun a8 => (check_satisfied_RulesChecker a6 a7 a8)))) fun v_item_result =>
      (iteM (pure v_item_result)
      cTrue
      k1))
      (iteM (pure v_item_result)
      cTrue
      k1))))

theorem rulesBody_step (w : PyVal) (q : Option Inquiry) (e : Elem) (k : M) :
    rulesBody w q (elemV e) k = if rulesElem w q e then cTrue else k := by
  cases e with
  | str s => rfl
  | rule r =>
    simp only [rulesBody, elemV, pure_ok, cFalse_eq, bindM_ok, typeIsDictM_rule, hasSatisfiedM_rule, iteM_ok, truth_bool,
      Bool.false_eq_true, ↓reduceIte, check_satisfied_rule]
    rfl
  | attrs kvs =>
    -- the inner loop, entered with `item_result = False`; `items()` yields `kvs.map pairV` by definition
    exact attr_loop w q kvs false fun r2 => iteM (.ok (stGet r2 0)) cTrue k

theorem loop_rules (w : PyVal) (q : Option Inquiry) (es : List Elem) :
    toR (loopM (es.map elemV) (rulesBody w q) cFalse) = .ok (rulesLoop w q es) := by
  refine loopM_toR elemV _ _ (fun es => .ok (rulesLoop w q es)) rfl (fun e rest k ih => ?_) es
  rw [rulesBody_step, rulesLoop]
  cases rulesElem w q e
  · exact ih
  · rfl

/-- **`RulesChecker.fits` as written in the source — the loop over the elements, the inner loop over an attribute
dictionary with its `item_result` variable and `break`, `_check_satisfied` swallowing every exception — is the model's
`rulesFits`** -/
theorem gen_RulesChecker_fits (p : Policy) (f : Field) (w : PyVal) (q : Option Inquiry) :
    toR (fits_RulesChecker (.policy p) (.py (.str (fieldName f).toList)) (.py w) (.inq q)) = rulesFits p f w q := by
  unfold fits_RulesChecker
  -- `rw`, which stops at the loop: `simp only` would rewrite all through its body
  rw [pure_ok, pure_ok, getattrDynM_field, bindM_ok, pure_ok, isinstanceM_dict, ofBool_eq, bindM_ok, pure_ok, pyFor_seq]
  exact loop_rules w q (p.field f)

theorem translatedRulesChecker_covers : "RulesChecker" ∈ translatedCheckers := by decide

end Vakt.GenEquiv
