import Gen.Policy
import Gen.Lemmas
import Model.PolicyObj
/-!
# The translated `Policy._calculate_type`, `_check_field_type`, `__setattr__` and `__init__`

`/repo/vakt/policy.py`.  `_calculate_type` returns the type constant the model's `calcType` computes from the *kinds* of the elements of the
three definition fields; `_check_field_type`, on a sequence of elements, is `checkField`.  The statements about the other two contain no
term of the model: `gen_setattr` says in terms of the translated `_check_field_type` and `_calculate_type` that `__setattr__` runs the
two checks before its two writes; `gen_init` says that `__init__` is `runAssigns`, defined here, on a fixed list of eight assignments,
each through the translated `__setattr__`.  No theorem links `runAssigns` to the model's `PolicyObj.construct`.
-/
namespace Vakt.GenEquiv
open Vakt PyVal Vakt.PyPrim Vakt.GenPolicy Vakt.PolicyObj

theorem toList_beq (cs : List Char) (s : String) : (cs == s.toList) = (String.ofList cs == s) := by
  rw [Bool.eq_iff_iff, beq_iff_eq, beq_iff_eq, ← String.toList_inj, String.toList_ofList]

theorem cmpIn_strList (name : List Char) (xs : List String) :
    cmpIn (.ok (.py (.str name))) (cStrList xs) = ofBool (xs.contains (String.ofList name)) := by
  show ofBool ((xs.map fun s => V.py (.str s.toList)).any fun v => match v with | .py w => pyEq (.str name) w | _ => false) = _
  simp only [List.any_map, Function.comp_def, pyEq_str, toList_beq, List.contains_eq_any_beq, BEq.comm (a := String.ofList name)]

/-- the kind of an element, as `_calculate_type` sees it -/
def kindOfV : V → EKind
  | .py (.str _) => .str
  | .rule _ => .rule
  | .attrs _ => .rule
  | .py (.dict _) => .rule
  | _ => .other

/-- the state both loops carry: the counters `all_elements`, `rule_elements`, `str_elements` -/
def cst (a r s : Nat) : List V := [.py (.int a), .py (.int r), .py (.int s)]

/-- the body of the inner loop (one element) -/
def cntBody : V → List V → (List V → M) → (List V → M) → M := fun l2_e s2 k2 b2 =>
      (bindM (addM (pure (stGet s2 0)) (cInt (1))) fun v_all_elements =>
      (iteM (isRuleLikeM (pure l2_e))
      (bindM (addM (pure (stGet s2 1)) (cInt (1))) fun v_rule_elements =>
      (k2 [v_all_elements, v_rule_elements, (stGet s2 2)]))
      (iteM (isinstanceM (pure l2_e) "str")
      (bindM (addM (pure (stGet s2 2)) (cInt (1))) fun v_str_elements =>
      (k2 [v_all_elements, (stGet s2 1), v_str_elements]))
      (k2 [v_all_elements, (stGet s2 1), (stGet s2 2)]))))

def isK (k : EKind) (e : V) : Bool := kindOfV e == k

theorem isRuleLikeM_ok (e : V) : isRuleLikeM (.ok e) = ofBool (kindOfV e == .rule) := by
  cases e with
  | py v => cases v <;> rfl
  | _ => rfl

theorem isinstanceM_kind (e : V) : isinstanceM (.ok e) "str" = ofBool (kindOfV e == .str) := by
  cases e with
  | py v => rw [isinstanceM_str]; cases v <;> rfl
  | _ => rfl

theorem cntBody_step (e : V) (a r s : Nat) (kc bc : List V → M) :
    cntBody e (cst a r s) kc bc =
      kc (cst (a + 1) (r + if isK .rule e then 1 else 0) (s + if isK .str e then 1 else 0)) := by
  unfold isK
  simp only [cntBody, cst, stGet_zero, stGet_succ, pure_ok, cInt_eq, addM_ok, bindM_ok, isRuleLikeM_ok, isinstanceM_kind, ofBool_eq, iteM_ok,
    truth_bool]
  cases kindOfV e <;> rfl

theorem cnt_loop (es : List V) :
    ∀ (a r s : Nat) (rest : List V → M),
      loopS es cntBody (cst a r s) rest =
        rest (cst (a + es.length) (r + es.countP (isK .rule)) (s + es.countP (isK .str))) := by
  induction es with
  | nil => intro a r s rest; rfl
  | cons e tail ih =>
    intro a r s rest
    -- each counter: what this element adds, then what the tail adds
    have h (x c n : Nat) : x + c + n = x + (n + c) := by rw [Nat.add_assoc, Nat.add_comm c]
    rw [loopS, cntBody_step, ih, List.length_cons, List.countP_cons, List.countP_cons, h, h, h]

/-- the body of the outer loop (one definition field) -/
def fldBody : V → List V → (List V → M) → (List V → M) → M := fun l1_elements s1 k1 b1 =>
      (pyForS (pure l1_elements) cntBody
      [(stGet s1 0), (stGet s1 1), (stGet s1 2)]
      (fun r2 => (k1 [(stGet r2 0), (stGet r2 1), (stGet r2 2)])))

theorem fldBody_step (es : List V) (a r s : Nat) (kc bc : List V → M) :
    fldBody (.seq es) (cst a r s) kc bc =
      kc (cst (a + es.length) (r + es.countP (isK .rule)) (s + es.countP (isK .str))) := by
  simp only [fldBody, pure_ok, pyForS_seq, cst, stGet_zero, stGet_succ]
  exact cnt_loop es a r s _

/-- the three fields one after the other -/
theorem fld_loop (ss rs as : List V) (rest : List V → M) :
    loopS [.seq ss, .seq rs, .seq as] fldBody (cst 0 0 0) rest =
      rest (cst ((ss ++ rs ++ as).length) ((ss ++ rs ++ as).countP (isK .rule)) ((ss ++ rs ++ as).countP (isK .str))) := by
  simp only [loopS, fldBody_step, List.length_append, List.countP_append, Nat.zero_add, Nat.add_assoc]

/-- the comparisons of the counters at the end -/
def finish (r1 : List V) : M :=
      (iteM (pyOr (cmpEq (pure (stGet r1 0)) (pure (stGet r1 2))) (fun _ => (cmpEq (pure (stGet r1 0)) (cInt (0)))))
      (cInt (1))
      (iteM (cmpEq (pure (stGet r1 0)) (pure (stGet r1 1)))
      (cInt (2))
      raiseM))

theorem type_consts : typeString = 1 ∧ typeRule = 2 := by decide

theorem countP_all (k : EKind) (es : List V) :
    (es.countP (isK k) == es.length) = (es.map kindOfV).all (· == k) := by
  rw [Bool.eq_iff_iff, beq_iff_eq, List.countP_eq_length, List.all_map, List.all_eq_true]
  rfl

theorem finish_eq (es : List V) :
    finish (cst es.length (es.countP (isK .rule)) (es.countP (isK .str))) =
      (match calcType (es.map kindOfV) [] [] with
       | some t => .ok (.py (.int t))
       | Option.none => raiseM) := by
  have h0 : cmpEq (.ok (.py (.int es.length))) (cInt 0) = ofBool (es.length == 0) := cmpEq_nat es.length 0
  -- evaluate; `BEq.comm` and `countP_all` turn `count == len` into the model's `all`, the last three names unfold the model's side
  simp only [finish, cst, stGet_zero, stGet_succ, pure_ok, h0, cmpEq_nat, ofBool_eq, pyOr_bool, iteM_ok, truth_bool, BEq.comm (a := es.length),
    countP_all, calcType, List.append_nil, type_consts]
  -- "no elements at all" is the only way for the length to be 0, and then all elements are strings
  cases es with
  | nil => rfl
  | cons e t =>
    cases ((e :: t).map kindOfV).all (· == EKind.str) <;> cases ((e :: t).map kindOfV).all (· == EKind.rule) <;> rfl

/-- what `getattr(self_copy, f, ())` finds for a definition field: the stored sequence, or the empty tuple -/
def fieldOf (fs : List (String × V)) (name : String) : V := (objGet name fs).getD (.seq [])

theorem calcType_append (ss rs as : List EKind) : calcType ss rs as = calcType (ss ++ rs ++ as) [] [] := by
  simp only [calcType, List.append_nil]

/-- **`Policy._calculate_type` as written in the source is the model's `calcType`**: for an object whose three definition
fields (after the new value has been put into the copy) hold sequences of elements, the result is the type constant
`calcType` computes from the kinds of the elements, and `PolicyCreationError` exactly when it has no answer -/
theorem gen_calculate_type (fs : List (String × V)) (name : List Char) (value : V) (ss rs as : List V)
    (hs : fieldOf (objSet (String.ofList name) value fs) "subjects" = .seq ss)
    (hr : fieldOf (objSet (String.ofList name) value fs) "resources" = .seq rs)
    (ha : fieldOf (objSet (String.ofList name) value fs) "actions" = .seq as) :
    calculate_type_Policy (.obj fs) (.py (.str name)) value =
      (match calcType (ss.map kindOfV) (rs.map kindOfV) (as.map kindOfV) with
       | some t => .ok (.py (.int t))
       | Option.none => raiseM) := by
  have hget (n : String) : getattrObjM (.ok (.obj (objSet (String.ofList name) value fs))) (.ok (.py (.str n.toList))) cEmptyTuple =
      .ok (fieldOf (objSet (String.ofList name) value fs) n) := by
    rw [cEmptyTuple, getattrObjM_obj, String.ofList_toList]; rfl
  simp only [calculate_type_Policy, cInt_eq, pure_ok, bindM_ok, copyM, setDictItemM_obj, cStrList, List.map_cons, List.map_nil,
    listCompM_seq, compM, hget, hs, hr, ha, Except.map, pyForS_seq]
  -- what is left: the loop over the three fields (its body is `fldBody`), then `finish`
  rw [calcType_append, ← List.map_append, ← List.map_append, ← finish_eq]
  exact fld_loop ss rs as finish

def isDefName (name : List Char) : Bool := isDefField (String.ofList name)

theorem cmpIn_defFields (name : List Char) :
    cmpIn (.ok (V.py (.str name))) (cStrList ["subjects", "resources", "actions"]) = ofBool (isDefName name) :=
  cmpIn_strList name Generated.definitionFields

/-- the element test of `_check_field_type` -/
theorem okElem_eval (e : V) :
    pyOr (isinstanceM (.ok e) "str") (fun _ => isRuleLikeM (.ok e)) = ofBool (kindOfV e != .other) := by
  simp only [isinstanceM_kind, isRuleLikeM_ok, ofBool_eq, pyOr_bool]
  cases kindOfV e <;> rfl

/-- `all(f(x) for x in xs)` for an element test `f` that says whether the kind of `x` is one of the two known ones -/
theorem all_known (f : V → M) (hf : ∀ e, f e = ofBool (kindOfV e != .other)) (xs : List V) :
    callAll (listCompM (.ok (.seq xs)) f) = ofBool (!(xs.map kindOfV).any (· == EKind.other)) := by
  have h := listCompM_map f id _ xs fun e _ => hf e
  rw [List.map_id] at h
  rw [h, callAll_seq, List.all_map, List.any_map, List.not_any_eq_all_not]
  rfl

/-- **`Policy._check_field_type` as written in the source**, for a value that is a sequence of elements, under any name: it raises
exactly when the name is a definition field and an element is neither a string nor a rule nor an attribute dictionary, or when the
name is `context` (a sequence is not a dictionary).  A value that is not a sequence is not covered. -/
theorem gen_check_field_type (self : V) (name : List Char) (xs : List V) :
    check_field_type_Policy self (.py (.str name)) (.seq xs) =
      (if isDefName name && (xs.map kindOfV).any (· == EKind.other) then raiseM
       else if name == "context".toList then raiseM else cNone) := by
  have hdict : isinstanceM (.ok (V.seq xs)) "dict" = ofBool false := rfl
  -- evaluate; the three `Bool.` names at the end tidy the two tests into the conditions of the statement
  simp only [check_field_type_Policy, pure_ok, cmpIn_defFields, all_known _ okElem_eval, cStr_eq, cmpEq_py, pyEq_str, hdict, ofBool_eq,
    pyNot_ok, pyAnd_bool, iteM_ok, truth_bool, Bool.not_not, Bool.not_false, Bool.and_true]
  rfl

/-- … in the model's words: `checkField` over the kinds of the elements -/
theorem gen_check_field_type_model (self : V) (name : List Char) (xs : List V) :
    check_field_type_Policy self (.py (.str name)) (.seq xs) =
      (match checkField (String.ofList name) (.seq (xs.map kindOfV)) false with
       | some _ => raiseM
       | Option.none => cNone) := by
  rw [gen_check_field_type, toList_beq, checkField, isDefName]
  cases hd : isDefField (String.ofList name) with
  | false => cases (String.ofList name == "context") <;> rfl
  | true =>
    -- the code goes on to the test for `context`, the model does not: `context` is no definition field
    have hn : (String.ofList name == "context") = false := by
      cases h : String.ofList name == "context" with
      | false => rfl
      | true => rw [eq_of_beq h] at hd; exact absurd hd (by decide)
    rw [hn]
    cases (xs.map kindOfV).any (· == EKind.other) <;> rfl

/-- **`Policy.__setattr__` as written in the source**: the two checks first (`_check_field_type`, then `_calculate_type` on a copy),
and only when neither raised the two writes - the attribute, then the computed type.  A rejected assignment ends in an exception
before anything was written (never in the bare changed object that `objSetK` leaves behind when something raises after a write).
Both sides are translated code: what the two checks compute is `gen_check_field_type` and `gen_calculate_type`. -/
theorem gen_setattr (fs : List (String × V)) (name : List Char) (value : V) :
    setattr_Policy (.obj fs) (.py (.str name)) value =
      (match check_field_type_Policy (.obj fs) (.py (.str name)) value with
       | .error e => .error e
       | .ok _ => match calculate_type_Policy (.obj fs) (.py (.str name)) value with
         | .error e => .error e
         | .ok t => .ok (.seq [.py .none, .obj (objSet "type" t (objSet (String.ofList name) value fs))])) := by
  simp only [setattr_Policy, pure_ok, bindM_step]
  cases check_field_type_Policy (.obj fs) (.py (.str name)) value with
  | error e => rfl
  | ok v =>
    rw [bindM_ok]
    cases calculate_type_Policy (.obj fs) (.py (.str name)) value <;> rfl

/-- a sequence of attribute assignments, each through the translated `__setattr__`; the first rejection ends it -/
def runAssigns : V → List (List Char × V) → M
  | o, [] => pairM cNone (pure o)
  | o, (n, v) :: rest => callProcM (setattr_Policy o (.py (.str n)) v) fun _r o' => runAssigns o' rest

/-- the context the constructor assigns: `context` if it is not `None`, else the deprecated `rules` if truthy, else `{}` -/
def ctorContext (ctx rules : V) : V :=
  match ctx with
  | .py .none => if truth rules then rules else .py (.dict [])
  | .inq Option.none => if truth rules then rules else .py (.dict [])
  | c => c

/-- `ctorContext` through the answer `t` of the test `ctx is None` (one pass over the kinds of objects for both) -/
theorem ctorContext_view (ctx rules : V) :
    ∃ t, isNoneM (.ok ctx) = ofBool t ∧
      ctorContext ctx rules = if t then (if truth rules then rules else .py (.dict [])) else ctx := by
  cases ctx with
  | py v => cases v <;> exact ⟨_, rfl, rfl⟩
  | inq q => cases q <;> exact ⟨_, rfl, rfl⟩
  | _ => exact ⟨_, rfl, rfl⟩

/-- the constructor's three-way choice of a context, whatever is then done with the chosen one -/
theorem ctx_choice (ctx rules : V) (k : V → M) :
    iteM (isNotNoneM (.ok ctx)) (k ctx) (iteM (.ok rules) (k rules) (k (.py (.dict [])))) = k (ctorContext ctx rules) := by
  obtain ⟨t, ht, hc⟩ := ctorContext_view ctx rules
  simp only [isNotNoneM, ht, ofBool_eq, pyNot_ok, iteM_ok, truth_bool, hc]
  cases t <;> cases truth rules <;> rfl

/-- **`Policy.__init__` as written in the source**: eight assignments in this order - uid, subjects, effect (a falsy one replaced by
the deny constant), resources, actions, context (see `ctorContext`), description, and `type = None` (whose value `__setattr__`
ignores) - each of them through the translated `__setattr__` (`runAssigns`), the first rejection ending the construction.  No term of
the model appears: that the model's `construct` is run on the same sequence is the harness's doing (`harness/props/c10.py` feeds it
in this order), not a theorem. -/
theorem gen_init (self uid subj eff res act ctx rules desc : V) :
    init_Policy self uid subj eff res act ctx rules desc =
      runAssigns self [("uid".toList, uid), ("subjects".toList, subj),
        ("effect".toList, if truth eff then eff else .py (.str Generated.denyConst)), ("resources".toList, res),
        ("actions".toList, act), ("context".toList, ctorContext ctx rules), ("description".toList, desc),
        ("type".toList, .py .none)] := by
  -- the three branches of the choice of a context are one continuation (the last three assignments) at three contexts
  have h (o : V) := ctx_choice ctx rules fun c =>
    runAssigns o [("context".toList, c), ("description".toList, desc), ("type".toList, .py .none)]
  simp only [runAssigns, pure_ok, cNone_eq] at h
  simp only [init_Policy, pure_ok, bindM_step, cDenyConst, pyOr_const, cNone_eq, cEmptyDict, runAssigns, h]

theorem translatedPolicy_covers :
    translatedPolicy = ["_calculate_type", "_check_field_type", "__setattr__", "__init__"] := rfl

end Vakt.GenEquiv
