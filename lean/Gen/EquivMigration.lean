import Gen.Migration
import Gen.Lemmas
import Proofs.Migration
/-!
# The translated `MigrationSet.up` / `down` are the model's `request`

`/repo/vakt/storage/migration.py`.  The two methods act on a store (the recorded version, the schema) through `m.up()` / `m.down()` and
`self.save_applied_number`; the translator threads a *world* value through the body (each effect call receives the world and hands the
new one to what follows; a raise ends the request with the world as it then is).
-/
namespace Vakt.GenEquiv
open Vakt PyVal Vakt.PyPrim Vakt.GenMigration Vakt.Migration

/-- a migration object: its order number -/
def ordV (o : Nat) : V := .py (.int (o : Int))
/-- the `number` argument of `up` / `down`: a version, or `None` -/
def numV : Option Nat → V
  | some n => .py (.int (n : Int))
  | Option.none => .py .none

theorem migrations_eq (orders : List Nat) : migrationsM (.ok (.migset orders)) = .ok (.seq (orders.map ordV)) := rfl

theorem natsOf_map (ns : List Nat) : natsOf (ns.map ordV) = some ns := by
  induction ns with
  | nil => rfl
  | cons n rest ih =>
    -- for a natural number `n`, `0 ≤ (n : Int)` and `(n : Int).toNat` compute
    show (natsOf (rest.map ordV)).map (n :: ·) = some (n :: rest)
    rw [ih]
    rfl

theorem sortedByOrderM_ordV (ns : List Nat) (rev : Bool) :
    sortedByOrderM (.ok (.seq (ns.map ordV))) (.ok (.py (.bool rev))) =
      .ok (.seq ((if rev then (sortAsc ns).reverse else sortAsc ns).map ordV)) := by
  show (match natsOf (ns.map ordV) with
    | some ns => (.ok (.seq ((if rev then (sortAsc ns).reverse else sortAsc ns).map ordV)) : M)
    | Option.none => raiseM) = _
  rw [natsOf_map]

/-- **`MigrationSet._get_migrations` as translated from the source is the model's `select`** -/
theorem gen_get_migrations (orders : List Nat) (num : Option Nat) (rev : Bool) :
    get_migrations_MigrationSet (.migset orders) (numV num) (.py (.bool rev)) =
      .ok (.seq ((select orders ⟨if rev then .down else .up, num⟩).map ordV)) := by
  cases num with
  | none =>
    show sortedByOrderM (migrationsM (.ok (.migset orders))) (.ok (.py (.bool rev))) = _
    rw [migrations_eq, sortedByOrderM_ordV]
    cases rev <;> rfl
  | some n =>
    show filterCompM (migrationsM (.ok (.migset orders))) (fun c2_m => cmpEq (.ok c2_m) (.ok (ordV n))) = _
    rw [migrations_eq, filterCompM_seq, filterLoop_total ordV (· == n) _ (fun o => cmpEq_nat o n)]
    rfl

/-- one iteration of `up`'s loop -/
def upBody : V → List V → (List V → M) → (List V → M) → M := fun l1_m s1 k1 b1 =>
      (iteM (cmpGt (orderM (pure l1_m)) (lastAppliedM (pure (stGet s1 0))))
      (stepBodyM .up (pure l1_m) (pure (stGet s1 0)) fun w2 =>
      (saveAppliedM (orderM (pure l1_m)) (pure w2) fun w3 =>
      (k1 [w3])))
      (k1 [(stGet s1 0)]))

/-- one iteration of `down`'s loop -/
def downBody : V → List V → (List V → M) → (List V → M) → M := fun l1_m s1 k1 b1 =>
      (iteM (cmpLe (orderM (pure l1_m)) (lastAppliedM (pure (stGet s1 0))))
      (stepBodyM .down (pure l1_m) (pure (stGet s1 0)) fun w2 =>
      (bindM (subM (orderM (pure l1_m)) (cInt (1))) fun v_last_applied =>
      (saveAppliedM (pure v_last_applied) (pure w2) fun w3 =>
      (k1 [w3]))))
      (k1 [(stGet s1 0)]))

def dirBody : Dir → V → List V → (List V → M) → (List V → M) → M
  | .up => upBody
  | .down => downBody

theorem lastAppliedM_world (st : MState) (k : Nat) (f : Fault) (r : Bool) :
    lastAppliedM (.ok (.world st k f r)) = .ok (.py (.int st.last)) := rfl

theorem stepBodyM_world (d : Dir) (n k : Nat) (st : MState) (f : Fault) (r : Bool) (kc : V → M) :
    stepBodyM d (.ok (.py (.int (n : Int)))) (.ok (.world st k f r)) kc =
      if f == .body k then .ok (.world { st with trace := st.trace ++ [(d, n)] } k f true)
      else kc (.world { (applyStep d n st) with last := st.last } k f false) := rfl

theorem saveAppliedM_world (i : Int) (k : Nat) (st : MState) (f : Fault) (r : Bool) (kc : V → M) :
    saveAppliedM (.ok (.py (.int i))) (.ok (.world st k f r)) kc =
      if f == .save k then .ok (.world st k f true) else kc (.world { st with last := i.toNat } (k + 1) f false) := rfl

/-- one iteration, in the words of `Migration.loop_cons` -/
theorem dirBody_step (d : Dir) (f : Fault) (n k : Nat) (st : MState) (kc bc : List V → M) :
    dirBody d (ordV n) [.world st k f false] kc bc =
      if gatedB d n st.last = false then kc [.world st k f false]
      else if f = .body k then .ok (.world { st with trace := st.trace ++ [(d, n)] } k f true)
      else if f = .save k then .ok (.world { (applyStep d n st) with last := st.last } k f true)
      else kc [.world (applyStep d n st) (k + 1) f false] := by
  -- evaluate; the `Int.` names bring the test on the order number and the saved number back to `Nat`, `beq_iff_eq` the tests on `f` to `=`
  cases d
  · simp only [dirBody, upBody, gatedB, ordV, pure_ok, stGet_zero, orderM, lastAppliedM_world, cmpGt_int, Int.ofNat_lt, ofBool_eq,
      iteM_ok, truth_bool, stepBodyM_world, saveAppliedM_world, Int.toNat_natCast, beq_iff_eq]
    cases Decidable.decide (st.last < n) <;> rfl
  · simp only [dirBody, downBody, gatedB, ordV, pure_ok, stGet_zero, orderM, lastAppliedM_world, cmpLe_int, Int.ofNat_le, ofBool_eq,
      iteM_ok, truth_bool, stepBodyM_world, cInt_eq, subM_ok, bindM_ok, saveAppliedM_world, Int.pred_toNat, Int.toNat_natCast,
      beq_iff_eq]
    cases Decidable.decide (n ≤ st.last) <;> rfl

/-- the world a request ends in: the model's state and raise flag, whatever the step counter is -/
def IsOutcome (m : M) (f : Fault) (r : MState × Bool) : Prop := ∃ k, m = .ok (.world r.1 k f r.2)

theorem IsOutcome.ite {c : Prop} [Decidable c] {f : Fault} {a b : M} {x y : MState × Bool}
    (h1 : c → IsOutcome a f x) (h2 : ¬c → IsOutcome b f y) : IsOutcome (if c then a else b) f (if c then x else y) := by
  by_cases h : c
  · rw [if_pos h, if_pos h]
    exact h1 h
  · rw [if_neg h, if_neg h]
    exact h2 h

theorem dir_loop (d : Dir) (f : Fault) (ns : List Nat) : ∀ (k : Nat) (st : MState),
    IsOutcome (loopS (ns.map ordV) (dirBody d) [.world st k f false] (fun r => pure (stGet r 0))) f (loop d f ns k st) := by
  induction ns with
  | nil => intro k st; exact ⟨k, rfl⟩
  | cons n rest ih =>
    intro k st
    rw [List.map_cons, loopS, dirBody_step, loop_cons]
    -- both sides are the same four-way conditional (`dirBody_step`, `loop_cons`)
    refine .ite (fun _ => ih k st) fun _ => ?_          -- gate closed: the rest of the loop from the same state
    refine .ite (fun _ => ⟨k, rfl⟩) fun _ => ?_          -- the step body raises
    refine .ite (fun _ => ⟨k, rfl⟩) fun _ => ?_          -- saving the version raises
    exact ih (k + 1) _                                   -- applied: the rest of the loop, one step on

theorem up_loop (f : Fault) (ns : List Nat) : ∀ (k : Nat) (st : MState),
    IsOutcome (loopS (ns.map ordV) upBody [.world st k f false] (fun r => pure (stGet r 0))) f (loop .up f ns k st) :=
  dir_loop .up f ns

theorem down_loop (f : Fault) (ns : List Nat) : ∀ (k : Nat) (st : MState),
    IsOutcome (loopS (ns.map ordV) downBody [.world st k f false] (fun r => pure (stGet r 0))) f (loop .down f ns k st) :=
  dir_loop .down f ns

/-- **`MigrationSet.up` as translated from the source is the model's request** -/
theorem gen_up (orders : List Nat) (st : MState) (num : Option Nat) (f : Fault) :
    IsOutcome (up_MigrationSet (.migset orders) (numV num) (.world st 0 f false)) f (request orders st ⟨.up, num⟩ f) := by
  unfold up_MigrationSet
  simp only [pure_ok, bindM_ok, cFalse_eq, gen_get_migrations, pyForS_seq]
  exact dir_loop .up f (select orders ⟨.up, num⟩) 0 st

/-- **`MigrationSet.down` as translated from the source is the model's request** -/
theorem gen_down (orders : List Nat) (st : MState) (num : Option Nat) (f : Fault) :
    IsOutcome (down_MigrationSet (.migset orders) (numV num) (.world st 0 f false)) f (request orders st ⟨.down, num⟩ f) := by
  unfold down_MigrationSet
  simp only [pure_ok, bindM_ok, cTrue_eq, gen_get_migrations, pyForS_seq]
  exact dir_loop .down f (select orders ⟨.down, num⟩) 0 st

/-- the statement is about something: a two-step upgrade interrupted in the second step's bookkeeping -/
example : (request [2, 1] initial ⟨.up, Option.none⟩ (.save 1)) =
    ({ last := 1, schema := [1, 2], trace := [(.up, 1), (.up, 2)] }, true) := by decide

end Vakt.GenEquiv
