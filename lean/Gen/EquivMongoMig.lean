import Gen.MongoMig
import Gen.Lemmas
/-!
# The translated `MongoMigration._each_doc` against `eachCalls`: the `replace_one` calls and the failed documents of one pass

`/repo/vakt/storage/mongo.py`: the loop every data migration of the MongoDB storage runs its per-document processor through.  `gen_each_doc`
is against `eachCalls`, defined here: the documents whose processor raised (`Irreversible` or anything else) or returned a document without
`uid` are the ones collected as failed and get no `replace_one`; every other is replaced, under its `uid`, by what the processor returned
(C19's "left untouched and reported").  Of the model's `eachDoc` only the failed list is tied to it, for a processor whose results carry a
`uid` (`each_failed_eq`); no theorem relates the recorded `replace_one` calls to the collection `eachDoc` computes.
-/
namespace Vakt.GenEquiv
open Vakt PyVal Vakt.PyPrim Vakt.GenMongoMig Vakt.MongoMig

def kUid : List Char := "uid".toList

/-- the `replace_one` calls and the failed documents of one pass, in order -/
def eachCalls (f : MDoc → Except MErr MDoc) : List MDoc → List (PyVal × MDoc) × List MDoc
  | [] => ([], [])
  | d :: rest =>
    let r := eachCalls f rest
    match f d with
    | .ok d' => (match lookup kUid d' with
        | some u => ((u, d') :: r.1, r.2)
        | Option.none => (r.1, d :: r.2))            -- `new_doc['uid']` raises KeyError: caught, reported
    | .error _ => (r.1, d :: r.2)

/-- one iteration of the loop of `_each_doc` -/
def eachBody (proc : V) : V → List V → (List V → M) → (List V → M) → M := fun l2_doc s2 k2 _ =>
      (tryElseM (bindM (procCallM (pure proc) (pure l2_doc)) fun v_new_doc =>
      (replaceOneM (subscriptM (pure v_new_doc) (cStr "uid")) (pure v_new_doc) (pure (stGet s2 0)) fun w3 =>
      (k2 [w3, (stGet s2 1)])))
      (bindM (appendM (pure (stGet s2 1)) (pure l2_doc)) fun v_failed_policies =>
      (k2 [(stGet s2 0), v_failed_policies])))

def docV (d : MDoc) : V := .py (.dict d)

/-- what follows the loop: the failed list, whether the error-level report is written (the `if failed_policies:` of the source), and
the collection -/
def eachDone : List V → M := fun r2 => (iteM (pure (stGet r2 1))
      (pairM (pure (stGet r2 1)) (pairM cTrue (pure (stGet r2 0))))
      (pairM (pure (stGet r2 1)) (pairM cFalse (pure (stGet r2 0)))))

/-- the result of a pass: the failed documents, **the report is written exactly when there is one**, the collection -/
def eachResult (failed : List PyVal) (w : V) : M :=
  .ok (.seq [.py (.list failed), .seq [.py (.bool (!failed.isEmpty)), w]])

theorem eachDone_eq (failed : List PyVal) (w : V) : eachDone [w, .py (.list failed)] = eachResult failed w := by
  cases failed <;> rfl

theorem stGet2_0 (a b : V) : stGet [a, b] 0 = a := rfl
theorem stGet2_1 (a b : V) : stGet [a, b] 1 = b := rfl

theorem procCallM_mproc (f : MDoc → Except MErr MDoc) (d : MDoc) :
    procCallM (.ok (.mproc f)) (.ok (docV d)) = (match f d with | .ok d' => .ok (docV d') | .error _ => raiseM) := rfl

theorem subscriptM_uid (d : MDoc) :
    subscriptM (.ok (docV d)) (cStr "uid") = (match lookup kUid d with | some v => .ok (.py v) | Option.none => raiseM) := rfl

theorem replaceOneM_mcoll (u : PyVal) (d : MDoc) (all : List MDoc) (reps : List (PyVal × MDoc)) (k : V → M) :
    replaceOneM (.ok (.py u)) (.ok (docV d)) (.ok (.mcoll all reps)) k = k (.mcoll all (reps ++ [(u, d)])) := rfl

theorem each_loop (f : MDoc → Except MErr MDoc) (all : List MDoc) (rest : List MDoc) :
    ∀ (reps : List (PyVal × MDoc)) (failed : List PyVal),
      loopS (rest.map docV) (eachBody (.mproc f)) [.mcoll all reps, .py (.list failed)] eachDone =
        eachResult (failed ++ (eachCalls f rest).2.map PyVal.dict) (.mcoll all (reps ++ (eachCalls f rest).1)) := by
  induction rest with
  | nil =>
    intro reps failed
    rw [List.map_nil, loopS, eachDone_eq, eachCalls, List.map_nil, List.append_nil, List.append_nil]
  | cons d tail ih =>
    intro reps failed
    rw [List.map_cons, loopS, eachCalls]
    simp only [eachBody, pure_ok, stGet_zero, stGet_succ, procCallM_mproc]
    cases f d with
    -- the failed list grows, the replacements do not; unifying with `ih` evaluates the handler's `append`
    | error e => exact (ih reps (failed ++ [.dict d])).trans (by rw [List.append_assoc])
    | ok d' =>
      simp only [bindM_ok, subscriptM_uid]
      cases lookup kUid d' with
      | none => exact (ih reps (failed ++ [.dict d])).trans (by rw [List.append_assoc])
      | some u => rw [replaceOneM_mcoll, ih, List.append_assoc]; rfl

/-- **`_each_doc` as written in the source** -/
theorem gen_each_doc (self : V) (f : MDoc → Except MErr MDoc) (docs : List MDoc) :
    each_doc_MongoMigration self (.mproc f) (.mcoll docs []) =
      eachResult ((eachCalls f docs).2.map PyVal.dict) (.mcoll docs (eachCalls f docs).1) := by
  show loopS (docs.map docV) (eachBody (.mproc f)) [.mcoll docs [], .py (.list [])] eachDone = _
  rw [each_loop, List.nil_append, List.nil_append]

/-- what is reported as failed is what the model's `eachDoc` reports, for a processor whose results carry a `uid` -/
theorem each_failed_eq (f : MDoc → Except MErr MDoc) (hu : ∀ d d', f d = .ok d' → (lookup kUid d').isSome = true) :
    ∀ docs : List MDoc, (eachCalls f docs).2 = (eachDoc f docs).2 := by
  intro docs
  induction docs with
  | nil => rfl
  | cons d rest ih =>
    rw [eachCalls, eachDoc]
    cases hf : f d with
    | error e => exact congrArg (d :: ·) ih
    | ok d' =>
      dsimp only
      cases hl : lookup kUid d' with
      | none => have := hu d d' hf; rw [hl] at this; cases this
      | some u => exact ih

theorem translatedMongoMig_covers : translatedMongoMig = ["_each_doc"] := rfl

end Vakt.GenEquiv
