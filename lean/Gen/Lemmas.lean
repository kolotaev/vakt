import Model.PyPrim
import Proofs.PyVal
/-!
# How the primitives of `Model/PyPrim.lean` evaluate

What a primitive returns on arguments of the shape it is meant for, named `<primitive>_<shape>` (`_ok`: on `.ok` arguments of that shape).
Almost all hold by `rfl`; they are written for `simp only [...]` and `rw`, never for a bare `simp`.  The five constants met everywhere
(`cTrue`, `cFalse`, `cNone`, `cInt`, `cStr`) have a `_eq` lemma; the other constants (`cEmptyList`, `cDenyConst` …) and the primitives
whose definition is one line (`copyM`, `orderM`, `cStrList` …) have none: they are unfolded by name.  Where the result depends on a
hypothesis (`objAttrM_obj` here, `methFits_field` in `EquivGuard.lean`) the proof `show`s the primitive's inner `match`, so that `rw`
reaches the scrutinee.  A client or session call that one storage file alone meets has its lemma at the top of that file.
-/
namespace Vakt.GenEquiv
open Vakt PyVal Vakt.PyPrim

/-! ### control -/

theorem pure_ok (v : V) : (pure v : M) = .ok v := rfl
theorem bindM_ok (v : V) (f : V → M) : bindM (.ok v) f = f v := rfl
/-- `bindM_ok` as a rewrite the proof term records.  Under `simp only` a lemma that holds by `rfl` is a definitional step: the kernel
finds the conversion again by unfolding, and if the continuation calls a translated method that stays folded, it unfolds that method
and runs its body on the arguments before it turns to `bindM`.  Use this one in `simp only` in front of such a call (`gen_init`,
`gen_setattr`, `gen_redis_get_all`), `bindM_pure3` by `rw` on the call itself; `bindM_ok` elsewhere, and under `rw`, which records either. -/
theorem bindM_step (v : V) (f : V → M) : bindM (.ok v) f = f v := by rw [bindM]
/-- the shape the translator gives a call `g(x, y, z)` of a translated function -/
theorem bindM_pure3 (g : V → V → V → M) (x y z : V) :
    (bindM (pure x) fun a1 => bindM (pure y) fun a2 => bindM (pure z) fun a3 => g a1 a2 a3) = g x y z := rfl
theorem bindM_error (e : PyErr) (f : V → M) : bindM (.error e) f = .error e := rfl
theorem iteM_ok (v : V) (t e : M) : iteM (.ok v) t e = if truth v then t else e := rfl
theorem iteM_error (e : PyErr) (t f : M) : iteM (.error e) t f = .error e := rfl
theorem pyNot_ok (v : V) : pyNot (.ok v) = .ok (.py (.bool (!truth v))) := rfl
theorem notM_error (e : PyErr) : pyNot (.error e) = .error e := rfl
theorem callBool_ok (v : V) : callBool (.ok v) = .ok (.py (.bool (truth v))) := rfl
theorem ofBool_eq (b : Bool) : ofBool b = .ok (.py (.bool b)) := rfl
theorem cTrue_eq : cTrue = .ok (.py (.bool true)) := rfl
theorem cFalse_eq : cFalse = .ok (.py (.bool false)) := rfl
theorem cNone_eq : cNone = .ok (.py .none) := rfl
theorem cInt_eq (n : Int) : cInt n = .ok (.py (.int n)) := rfl
theorem cStr_eq (s : String) : cStr s = .ok (.py (.str s.toList)) := rfl
theorem truthy_bool (b : Bool) : PyVal.truthy (.bool b) = b := rfl
theorem truth_bool (b : Bool) : truth (.py (.bool b)) = b := rfl
theorem truth_inq (q : Option Inquiry) : truth (.inq q) = q.isSome := rfl
theorem truth_set (xs : List PyVal) : truth (.set xs) = !xs.isEmpty := rfl
theorem toR_ok (v : V) : toR (.ok v) = .ok (truth v) := rfl
theorem toR_error (e : PyErr) : toR (.error e) = .error e := rfl
theorem liftR_ok (b : Bool) : liftR (.ok b) = .ok (.py (.bool b)) := rfl
theorem liftR_error (e : PyErr) : liftR (.error e) = .error e := rfl

theorem toR_liftR (r : R) : toR (liftR r) = r := by cases r <;> rfl
theorem toR_pyNot_liftR (r : R) : toR (pyNot (liftR r)) = r.map (!·) := by cases r <;> rfl
theorem toR_pyAnd_liftR (r : R) (f : Unit → M) : toR (pyAnd (liftR r) f) = andThen r (fun _ => toR (f ())) := by
  cases r with
  | error e => rfl
  | ok b => cases b <;> rfl

theorem pyAnd_ok (v : V) (b : Unit → M) : pyAnd (.ok v) b = if truth v then b () else .ok v := rfl
theorem pyOr_ok (v : V) (b : Unit → M) : pyOr (.ok v) b = if truth v then .ok v else b () := rfl
theorem pyOr_const (v d : V) : pyOr (.ok v) (fun _ => .ok d) = .ok (if truth v then v else d) := by
  rw [pyOr_ok]; cases truth v <;> rfl
theorem pyOr_py (v d : PyVal) : pyOr (.ok (V.py v)) (fun _ => .ok (V.py d)) = .ok (V.py (if truthy v then v else d)) :=
  (pyOr_const _ _).trans (congrArg Except.ok (apply_ite V.py _ v d).symm)
theorem pyOr_bool (a b : Bool) : pyOr (.ok (.py (.bool a))) (fun _ => .ok (.py (.bool b))) = .ok (.py (.bool (a || b))) := by
  cases a <;> rfl
theorem pyAnd_bool (a b : Bool) : pyAnd (.ok (.py (.bool a))) (fun _ => .ok (.py (.bool b))) = .ok (.py (.bool (a && b))) := by
  cases a <;> rfl

theorem pairM_ok (x w : V) : pairM (.ok x) (.ok w) = .ok (.seq [x, w]) := rfl
theorem callProcM_pair (r w : V) (k : V → V → M) : callProcM (.ok (.seq [r, w])) k = k r w := rfl

/-! ### type tests, comparison, integers -/

theorem isinstanceM_str (v : PyVal) : isinstanceM (.ok (.py v)) "str" = ofBool (isStr v) := rfl
theorem isinstanceM_list (v : PyVal) : isinstanceM (.ok (.py v)) "list" = ofBool (isList v) := rfl
theorem isinstanceM_dict (v : PyVal) : isinstanceM (.ok (.py v)) "dict" = ofBool (isDict v) := rfl
theorem isNotNoneM_py {a : PyVal} (ha : a ≠ .none) : isNotNoneM (.ok (.py a)) = .ok (.py (.bool true)) := by
  cases a <;> first | rfl | exact absurd rfl ha

theorem cmp2_ok (f : PyVal → PyVal → R) (a b : PyVal) : cmp2 f (.ok (.py a)) (.ok (.py b)) = liftR (f a b) := rfl
theorem toR_cmp2 (f : PyVal → PyVal → R) (a b : PyVal) : toR (cmp2 f (.ok (.py a)) (.ok (.py b))) = f a b :=
  (congrArg toR (cmp2_ok f a b)).trans (toR_liftR _)
theorem cmpEq_py (u v : PyVal) : cmpEq (.ok (.py u)) (.ok (.py v)) = .ok (.py (.bool (pyEq u v))) := rfl
theorem cmpNe_py (u v : PyVal) : cmpNe (.ok (.py u)) (.ok (.py v)) = ofBool (!pyEq u v) := rfl
theorem cmpEq_char (a b : Char) : cmpEq (.ok (.py (.str [a]))) (.ok (.py (.str [b]))) = ofBool (a == b) :=
  congrArg ofBool (pyEq_char a b)

theorem cmpIn_str (a b : List Char) : cmpIn (.ok (.py (.str a))) (.ok (.py (.str b))) = ofBool (isInfix a b) := rfl
theorem cmpNotIn_str (a b : List Char) : cmpNotIn (.ok (.py (.str a))) (.ok (.py (.str b))) = ofBool (!isInfix a b) := rfl
theorem cmpIn_dict (k : List Char) (d : List (List Char × PyVal)) :
    cmpIn (.ok (.py (.str k))) (.ok (.py (.dict d))) = ofBool (lookup k d).isSome := rfl
theorem cmpNotIn_dict (k : List Char) (d : List (List Char × PyVal)) :
    cmpNotIn (.ok (.py (.str k))) (.ok (.py (.dict d))) = ofBool (!(lookup k d).isSome) := rfl

theorem cmpEq_int (a b : Int) : cmpEq (.ok (.py (.int a))) (.ok (.py (.int b))) = ofBool (a == b) :=
  congrArg ofBool (pyEq_int a b)

theorem cmpNe_int (a b : Int) : cmpNe (.ok (.py (.int a))) (.ok (.py (.int b))) = ofBool (!(a == b)) :=
  congrArg (fun e => ofBool (!e)) (pyEq_int a b)

theorem cmpLt_int (a b : Int) : cmpLt (.ok (.py (.int a))) (.ok (.py (.int b))) = ofBool (Decidable.decide (a < b)) :=
  congrArg liftR (pyLt_int a b)

theorem cmpGt_int (a b : Int) : cmpGt (.ok (.py (.int a))) (.ok (.py (.int b))) = ofBool (Decidable.decide (b < a)) :=
  congrArg liftR (pyGt_int a b)

theorem cmpLe_int (a b : Int) : cmpLe (.ok (.py (.int a))) (.ok (.py (.int b))) = ofBool (Decidable.decide (a ≤ b)) :=
  congrArg liftR (pyLe_int a b)

theorem cmpEq_nat (a b : Nat) : cmpEq (.ok (.py (.int a))) (.ok (.py (.int b))) = ofBool (a == b) := by
  have h : ((a : Int) == (b : Int)) = (a == b) := by rw [Bool.eq_iff_iff, beq_iff_eq, beq_iff_eq, Int.natCast_inj]
  rw [cmpEq_int, h]

theorem length_beq_zero {α : Type} (xs : List α) : ((xs.length : Int) == 0) = xs.isEmpty := by
  cases xs <;> rfl

theorem addM_ok (a b : Int) : addM (.ok (.py (.int a))) (.ok (.py (.int b))) = .ok (.py (.int (a + b))) := rfl
theorem subM_ok (a b : Int) : subM (.ok (.py (.int a))) (.ok (.py (.int b))) = .ok (.py (.int (a - b))) := rfl
theorem mulM_ok (a b : Int) : mulM (.ok (.py (.int a))) (.ok (.py (.int b))) = .ok (.py (.int (a * b))) := rfl

/-! ### sequences, dictionaries, objects -/

theorem callLen_seq (xs : List V) : callLen (.ok (.seq xs)) = cInt xs.length := rfl
theorem callLen_pols (l : Store.St) : callLen (.ok (.pols l)) = cInt l.length := rfl
theorem callList_pols (l : Store.St) : callList (.ok (.pols l)) = .ok (.pols l) := rfl
theorem callAll_seq (xs : List V) : callAll (.ok (.seq xs)) = ofBool (xs.all truth) := rfl
theorem seqItemM_zero (a : V) (l : List V) : seqItemM (.ok (.seq (a :: l))) 0 = .ok a := rfl
theorem seqItemM_one (a b : V) (l : List V) : seqItemM (.ok (.seq (a :: b :: l))) 1 = .ok b := rfl
theorem subscriptM_dict (kvs : List (List Char × PyVal)) (k : List Char) :
    subscriptM (.ok (.py (.dict kvs))) (.ok (.py (.str k))) =
      match lookup k kvs with | some v => .ok (.py v) | Option.none => raiseM := rfl

/-- a (key, rule) pair as `items()` of an attribute dictionary or of a policy's context yields it -/
def pairV (kv : List Char × AttrVal) : V := V.seq [.py (.str kv.1), attrValV kv.2]

theorem methSatisfied_ok (r : Rule) (w : PyVal) (q : Option Inquiry) :
    methSatisfied (.ok (.rule r)) (.ok (.py w)) (.ok (.inq q)) = liftR (Rule.eval r w q) := rfl

theorem methSatisfied_attrVal (a : AttrVal) (w : PyVal) (q : Option Inquiry) :
    methSatisfied (.ok (attrValV a)) (.ok (.py w)) (.ok (.inq q)) =
      (match a with | .rule r => liftR (r.eval w q) | .junk => raiseM) := by
  cases a <;> rfl

theorem attrM_uid (u : Store.Uid) (p : Store.Pol) (ok : Bool) : attrM (.ok (.polv u p ok)) "uid" = .ok (.py (.str u)) := rfl
theorem attrM_subject (q : Inquiry) : attrM (.ok (.inq (some q))) "subject" = .ok (.py q.subject) := rfl
theorem attrM_action (q : Inquiry) : attrM (.ok (.inq (some q))) "action" = .ok (.py q.action) := rfl
theorem attrM_resource (q : Inquiry) : attrM (.ok (.inq (some q))) "resource" = .ok (.py q.resource) := rfl
theorem attrM_context (q : Inquiry) : attrM (.ok (.inq (some q))) "context" = .ok (.py q.context) := rfl

theorem objGet_objSet_self (n : String) (v : V) (fs : List (String × V)) : objGet n (objSet n v fs) = some v := by
  induction fs with
  | nil => exact if_pos rfl
  | cons p rest ih =>
    by_cases h : p.1 = n
    · rw [objSet, if_pos h, objGet, if_pos h]
    · rw [objSet, if_neg h, objGet, if_neg h, ih]

theorem objGet_objSet_ne {n m : String} (hne : n ≠ m) (v : V) (fs : List (String × V)) :
    objGet m (objSet n v fs) = objGet m fs := by
  induction fs with
  | nil => exact if_neg hne
  | cons p rest ih =>
    by_cases h : p.1 = n
    · rw [objSet, if_pos h, objGet, objGet, if_neg (h ▸ hne), if_neg (h ▸ hne)]
    · rw [objSet, if_neg h, objGet, objGet, ih]

theorem objSetS_obj (fs : List (String × V)) (name : String) (v : M) (k : V → M) :
    objSetS (.ok (.obj fs)) name v k = bindM v fun w => k (.obj (objSet name w fs)) := rfl

theorem objAttrM_obj {fs : List (String × V)} {name : String} {v : V} (h : objGet name fs = some v) :
    objAttrM (.ok (.obj fs)) name = .ok v := by
  show (match objGet name fs with | some v => Except.ok v | Option.none => raiseM) = _
  rw [h]

/-- `self.<n> = v`, then `k` (by `rw` and not by `rfl`, for the reason given at `bindM_step`: the names are string computations) -/
theorem objSetK_obj (fs : List (String × V)) (n : List Char) (v : V) (k : V → M) :
    objSetK (.ok (.obj fs)) (.ok (.py (.str n))) (.ok v) k =
      (match k (.obj (objSet (String.ofList n) v fs)) with
       | .error _ => .ok (.obj (objSet (String.ofList n) v fs))
       | r => r) := by
  rw [objSetK]; rfl

theorem setDictItemM_obj (fs : List (String × V)) (n : List Char) (v : V) :
    setDictItemM (.ok (.obj fs)) (.ok (.py (.str n))) (.ok v) = .ok (.obj (objSet (String.ofList n) v fs)) := rfl

theorem getattrObjM_obj (fs : List (String × V)) (n : List Char) (d : V) :
    getattrObjM (.ok (.obj fs)) (.ok (.py (.str n))) (.ok d) = .ok ((objGet (String.ofList n) fs).getD d) := by
  simp only [getattrObjM, bindM_ok]
  cases objGet (String.ofList n) fs <;> rfl

/-! ### the policy as the checkers see it -/

theorem attr_stag (p : Policy) : attrPolicyM (.ok (.policy p)) "start_tag" = .ok (.py (.str [p.stag])) := rfl
theorem attr_etag (p : Policy) : attrPolicyM (.ok (.policy p)) "end_tag" = .ok (.py (.str [p.etag])) := rfl
theorem typeIsNotStrM_str (cs : List Char) : typeIsNotStrM (.ok (.py (.str cs))) = .ok (.py (.bool false)) := rfl

def fieldName : Field → String
  | .actions => "actions"
  | .subjects => "subjects"
  | .resources => "resources"

/-- `getattr(policy, field, [])` for the name of a field -/
theorem getattrDynM_field (p : Policy) (f : Field) :
    getattrDynM (.ok (.policy p)) (.ok (.py (.str (fieldName f).toList))) cEmptyList = .ok (.seq ((p.field f).map elemV)) := by
  cases f <;> rfl

/-! ### storage calls -/

theorem evalArgs_one (v : V) : evalArgs [.ok v] = .ok [v] := rfl

/-- what a storage call that returned hands to the code after it; `none`: it raised -/
def retV (vs : List V) : Store.Out → Option V
  | .done => some (.py .none)
  | .pol Option.none => some (.py .none)
  | .pol (some p) => some (.polv (uidArg vs) p true)
  | .pols l => some (.pols l)
  | _ => Option.none

-- the two tests `stCallM` makes on the name of its target
theorem storage_eq : ("storage" == "storage") = true := by decide
theorem cache_ne : ("cache" == "storage") = false := by decide

/-- `self.storage.<meth>(args)` in terms of `Store.step`, whatever that does -/
theorem stCallM_storage (meth : String) (args : List M) (cfg : Store.Cfg) (s : Enfold.EState) (t : Bool) (nt : Nat)
    (k : V → V → M) :
    stCallM "storage" meth args (.ok (.eworld cfg s t nt Option.none)) k =
      (match evalArgs args with
       | .error e => .error e
       | .ok vs => match storeOpOf meth vs true with
         | Option.none => raiseM
         | some op => match retV vs (Store.step cfg s.backend op).2 with
           | some v => k v (.eworld cfg { s with backend := (Store.step cfg s.backend op).1 } true nt Option.none)
           | Option.none => .ok (.eworld cfg { s with backend := (Store.step cfg s.backend op).1 } true nt
                                  (some (Store.step cfg s.backend op).2))) := by
  simp only [stCallM, bindM_ok, storage_eq, if_true, Bool.or_true]
  cases evalArgs args with
  | error e => rfl
  | ok vs =>
    dsimp only
    cases storeOpOf meth vs true with
    | none => rfl
    | some op =>
      dsimp only
      cases (Store.step cfg s.backend op).2 with
      | pol p => cases p <;> rfl
      | _ => rfl

/-- `self.cache.<meth>(args)`: the cache is an in-memory storage and accepts every policy -/
theorem stCallM_cache (meth : String) (args : List M) (cfg : Store.Cfg) (s : Enfold.EState) (t : Bool) (nt : Nat)
    (k : V → V → M) :
    stCallM "cache" meth args (.ok (.eworld cfg s t nt Option.none)) k =
      (match evalArgs args with
       | .error e => .error e
       | .ok vs => match storeOpOf meth vs false with
         | Option.none => raiseM
         | some op => match retV vs (Store.step Enfold.memCfg s.cache op).2 with
           | some v => k v (.eworld cfg { s with cache := (Store.step Enfold.memCfg s.cache op).1 } t nt Option.none)
           | Option.none => .ok (.eworld cfg { s with cache := (Store.step Enfold.memCfg s.cache op).1 } t nt
                                  (some (Store.step Enfold.memCfg s.cache op).2))) := by
  simp only [stCallM, bindM_ok, cache_ne, Bool.false_eq_true, if_false, Bool.or_false]
  cases evalArgs args with
  | error e => rfl
  | ok vs =>
    dsimp only
    cases storeOpOf meth vs false with
    | none => rfl
    | some op =>
      dsimp only
      cases (Store.step Enfold.memCfg s.cache op).2 with
      | pol p => cases p <;> rfl
      | _ => rfl

/-- `self.storage.<meth>(*args, **kwargs)` with positional arguments only -/
theorem stCallStarM_ok (target meth : String) (vs : List V) (w : M) (k : V → V → M) :
    stCallStarM target meth (.ok (.seq vs)) (.ok (.py (.dict []))) w k = stCallM target meth (vs.map .ok) w k := rfl

/-! ### loops and comprehensions -/

theorem stGet_zero (x : V) (xs : List V) : stGet (x :: xs) 0 = x := rfl
theorem stGet_succ (x : V) (xs : List V) (i : Nat) : stGet (x :: xs) (i + 1) = stGet xs i := rfl

theorem pyFor_seq (xs : List V) (body : V → M → M) (rest : M) : pyFor (.ok (.seq xs)) body rest = loopM xs body rest := rfl
theorem pyForS_seq (xs : List V) (body : V → List V → (List V → M) → (List V → M) → M) (st : List V) (rest : List V → M) :
    pyForS (.ok (.seq xs)) body st rest = loopS xs body st rest := rfl
theorem pyForS_pols (l : Store.St) (body : V → List V → (List V → M) → (List V → M) → M) (st : List V) (rest : List V → M) :
    pyForS (.ok (.pols l)) body st rest = loopS (l.map fun (x : Store.Uid × Store.Pol) => V.polv x.1 x.2 true) body st rest := rfl
theorem listCompM_seq (xs : List V) (f : V → M) : listCompM (.ok (.seq xs)) f = (compM xs f).map V.seq := rfl
theorem filterCompM_seq (xs : List V) (f : V → M) : filterCompM (.ok (.seq xs)) f = (filterLoop xs f).map V.seq := rfl

/-- a `for` loop that ends in a truth value, against the model's loop `L` given as a function of the items still to come: `inj`
embeds the model's items, `last` is what follows the loop, `hcons` is one iteration (`k`: the rest of the loop) -/
theorem loopM_toR {α : Type} (inj : α → V) (body : V → M → M) (last : M) (L : List α → R)
    (hnil : toR last = L []) (hcons : ∀ x xs k, toR k = L xs → toR (body (inj x) k) = L (x :: xs)) (xs : List α) :
    toR (loopM (xs.map inj) body last) = L xs := by
  induction xs with
  | nil => exact hnil
  | cons x xs ih => exact hcons x xs _ ih

theorem listCompM_map {α : Type} (f : V → M) (inj g : α → V) (xs : List α) (hf : ∀ x ∈ xs, f (inj x) = .ok (g x)) :
    listCompM (.ok (.seq (xs.map inj))) f = .ok (.seq (xs.map g)) := by
  have h : compM (xs.map inj) f = .ok (xs.map g) := by
    induction xs with
    | nil => rfl
    | cons x rest ih =>
      simp only [List.map_cons, compM, hf x List.mem_cons_self, ih fun y hy => hf y (List.mem_cons_of_mem _ hy)]
  rw [listCompM_seq, h]; rfl

theorem filterLoop_total {α : Type} (inj : α → V) (p : α → Bool) (f : V → M) (hf : ∀ x, f (inj x) = ofBool (p x)) (xs : List α) :
    filterLoop (xs.map inj) f = .ok ((xs.filter p).map inj) := by
  induction xs with
  | nil => rfl
  | cons x rest ih =>
    simp only [List.map_cons, filterLoop, hf, ih, ofBool_eq, truth_bool, List.filter_cons]
    cases p x <;> rfl

/-- a generator `for x in xs: yield f(x)`; the one variable its loop carries is what it has yielded so far -/
theorem loopS_yield {α : Type} (f : V → M) (inj g : α → V) (xs : List α) (hf : ∀ x ∈ xs, f (inj x) = .ok (g x)) :
    ∀ (acc : List V) (k : List V → M),
      loopS (xs.map inj) (fun x s kc _ => bindM (appendM (.ok (stGet s 0)) (f x)) fun y => kc [y]) [.seq acc] k =
        k [.seq (acc ++ xs.map g)] := by
  induction xs with
  | nil => intro acc k; simp only [List.map_nil, loopS, List.append_nil]
  | cons x rest ih =>
    intro acc k
    simp only [List.map_cons, loopS, hf x List.mem_cons_self]
    exact (ih (fun y hy => hf y (List.mem_cons_of_mem _ hy)) (acc ++ [g x]) k).trans (by rw [List.append_assoc]; rfl)

/-! ### paging -/

/-- the body of `Storage._check_limit_and_offset`, whatever raising `ValueError` does to the world at hand -/
theorem check_limit_body (l o : Int) (raise ret : M) :
    iteM (cmpLt (.ok (.py (.int l))) (cInt 0)) raise (iteM (cmpLt (.ok (.py (.int o))) (cInt 0)) raise ret) =
      if Backends.checkLimitOffset l o then raise else ret := by
  simp only [cInt_eq, cmpLt_int, ofBool_eq, iteM_ok, truth_bool, Backends.checkLimitOffset, Bool.or_eq_true, decide_eq_true_eq]
  by_cases h1 : l < 0 <;> by_cases h2 : o < 0 <;> simp only [h1, h2, if_true, if_false, or_self, or_true, true_or]

/-- the test every slicing primitive (`sliceM`, `isliceM`, `findPageM`, `sessSliceQueryM`) makes before it cuts -/
theorem bounds_ok {i j : Int} (hi : 0 ≤ i) (hj : 0 ≤ j) : (Decidable.decide (0 ≤ i) && Decidable.decide (0 ≤ j)) = true := by
  rw [decide_eq_true hi, decide_eq_true hj]
  rfl

theorem sliceM_seq (l : List V) {i j : Int} (hi : 0 ≤ i) (hj : 0 ≤ j) :
    sliceM (.ok (.seq l)) (.ok (.py (.int i))) (.ok (.py (.int j))) = .ok (.seq (Backends.pySlice l i.toNat j.toNat)) :=
  if_pos (bounds_ok hi hj)

end Vakt.GenEquiv
