import Gen.EquivParser
import Proofs.TagIndex
/-!
# The translated `compile_regex` is the model's index form followed by `piecesRe`

`/repo/vakt/parser.py`.  The pattern *text* is kept symbolic (escaped literals and parenthesised segments in order): that `re.compile` of
that text is the regular expression `piecesRe` builds is the model's own assumption about `re` (`Model/Regex.lean`).
-/
namespace Vakt.GenEquiv
open Vakt PyVal Vakt.PyPrim Vakt.GenParser Vakt.TagParser

def isOkP : ParseRes Re → Bool
  | .ok _ _ => true
  | _ => false

def segOk : Piece → Bool
  | .lit _ => true
  | .seg x => isOkP (parsePattern x)

theorem piecesRe_ok_iff (ps : List Piece) : isOkP (piecesRe ps) = ps.all segOk := by
  induction ps with
  | nil => rfl
  | cons p rest ih =>
    rw [List.all_cons, ← ih]
    cases p with
    | lit l => simp only [piecesRe, segOk, Bool.true_and]; cases piecesRe rest <;> rfl
    | seg x => simp only [piecesRe, segOk]; cases parsePattern x <;> cases piecesRe rest <;> rfl

theorem two_mul_natCast_add_one (i : Nat) : 2 * (i : Int) + 1 = ((2 * i + 1 : Nat) : Int) := rfl
theorem natCast_sub_one {n : Nat} (h : 1 ≤ n) : (n : Int) - 1 = ((n - 1 : Nat) : Int) := (Int.natCast_sub h).symm

theorem subscriptM_list (xs : List PyVal) (n : Nat) :
    subscriptM (.ok (.py (.list xs))) (.ok (.py (.int n))) = (match xs[n]? with | some v => .ok (.py v) | Option.none => raiseM) := rfl

theorem strSliceM_nat (cs : List Char) (a b : Nat) :
    strSliceM (.ok (.py (.str cs))) (.ok (.py (.int a))) (.ok (.py (.int b))) = .ok (.py (.str (slice cs a b))) := rfl

theorem strSliceFromM_nat (cs : List Char) (a : Nat) :
    strSliceFromM (.ok (.py (.str cs))) (.ok (.py (.int a))) = .ok (.py (.str (cs.drop a))) := rfl

theorem stepSlice2M_list (xs : List PyVal) : stepSlice2M (.ok (.py (.list xs))) = .ok (.py (.list (everyOther xs))) := rfl

theorem enumerateM_list (xs : List PyVal) : enumerateM (.ok (.py (.list xs))) = .ok (.seq (enumV 0 (xs.map V.py))) := rfl

theorem floordivM_two (a : Int) : floordivM (.ok (.py (.int a))) (.ok (.py (.int 2))) = .ok (.py (.int (a / 2))) := rfl

theorem reEscapeM_str (cs : List Char) : reEscapeM (.ok (.py (.str cs))) = .ok (.ptext [Piece.lit cs]) := rfl

/-- a segment compiled on its own only to see whether `re.compile` raises -/
theorem reCompileSegM_then (seg : List Char) (k : M) :
    (bindM (reCompileSegM (.ok (.py (.str seg)))) fun _ => k) = if isOkP (parsePattern seg) then k else raiseM := by
  simp only [reCompileSegM, bindM_ok]
  cases parsePattern seg <;> rfl

/-- the compiled form of a list of pieces, or `re.error` -/
def compiledOf (ps : List Piece) : M :=
  match piecesRe ps with
  | .ok r _ => .ok (.pattern r)
  | _ => raiseM

theorem compiledOf_bad (ps : List Piece) (h : ps.all segOk = false) : compiledOf ps = raiseM := by
  rw [← piecesRe_ok_iff] at h
  unfold compiledOf
  cases hp : piecesRe ps with
  | ok r rest => rw [hp] at h; cases h
  | _ => rfl

/-- the pattern variable: `''` before the first segment, the pieces so far afterwards -/
def patV (acc : List Piece) : V := if acc.isEmpty then .py (.str []) else .ptext acc

theorem ptGroupM_patV (acc : List Piece) (raw seg : List Char) :
    ptGroupM (.ok (patV acc)) (.ok (.ptext [Piece.lit raw])) (.ok (.py (.str seg))) =
      .ok (patV (acc ++ [Piece.lit raw, Piece.seg seg])) := by
  cases acc with
  | nil => rfl
  | cons p ps => exact congrArg (fun l => (.ok (.ptext l) : M)) (List.append_assoc (p :: ps) [Piece.lit raw] [Piece.seg seg])

theorem reCompileFullM_patV (acc l : List Piece) : reCompileFullM (.ok (patV acc)) (.ok (.ptext l)) = compiledOf (acc ++ l) := by
  cases acc <;> rfl

/-- one iteration of the loop of `compile_regex` -/
def crBody (phrase indices : V) : V → List V → (List V → M) → (List V → M) → M := fun l4_pair s4 k4 b4 =>
      (bindM (seqItemM (pure l4_pair) 0) fun l4_i =>
      (bindM (seqItemM (pure l4_pair) 1) fun l4_idx =>
      (bindM (strSliceM (pure phrase) (pure (stGet s4 0)) (pure l4_idx)) fun v_raw =>
      (bindM (subscriptM (pure indices) (addM (mulM (cInt (2)) (pure l4_i)) (cInt (1)))) fun v_end =>
      (bindM (strSliceM (pure phrase) (addM (pure l4_idx) (cInt (1))) (subM (pure v_end) (cInt (1)))) fun v_part =>
      (bindM (ptGroupM (pure (stGet s4 1)) (reEscapeM (pure v_raw)) (pure v_part)) fun v_pattern =>
      (bindM (floordivM (pure l4_i) (cInt (2))) fun _ =>
      (bindM (reCompileSegM (pure v_part)) fun _ =>
      (k4 [v_end, v_pattern])))))))))

/-- what follows the loop -/
def crDone (phrase : V) : List V → M := fun r4 =>
      (bindM (strSliceFromM (pure phrase) (pure (stGet r4 0))) fun v_raw =>
      (reCompileFullM (pure (stGet r4 1)) (reEscapeM (pure v_raw))))

theorem stGet2_0' (a b : V) : stGet [a, b] 0 = a := rfl
theorem stGet2_1' (a b : V) : stGet [a, b] 1 = b := rfl

theorem crDone_eq (e : List Char) (endp : Nat) (acc : List Piece) :
    crDone (.py (.str e)) [.py (.int endp), patV acc] = compiledOf (acc ++ [Piece.lit (e.drop endp)]) := by
  simp only [crDone, pure_ok, stGet_zero, stGet_succ, strSliceFromM_nat, bindM_ok, reEscapeM_str, reCompileFullM_patV]

/-- one segment: `e2` is what `indices[2*i+1]` holds -/
theorem crBody_step (e : List Char) (fl : List PyVal) (i idx e2 endp : Nat) (acc : List Piece) (kc bc : List V → M)
    (hfl : fl[2 * i + 1]? = some (.int (e2 : Int))) (he2 : 1 ≤ e2) :
    crBody (.py (.str e)) (.py (.list fl)) (.seq [.py (.int i), .py (.int idx)]) [.py (.int endp), patV acc] kc bc =
      if isOkP (parsePattern (slice e (idx + 1) (e2 - 1))) then
        kc [.py (.int e2), patV (acc ++ [Piece.lit (slice e endp idx), Piece.seg (slice e (idx + 1) (e2 - 1))])]
      else raiseM := by
  -- `2 * i + 1`, `idx + 1` and `e2 - 1` are turned into casts of natural numbers, so that the subscript and the slices compute
  simp only [crBody, pure_ok, bindM_ok, seqItemM_zero, seqItemM_one, stGet_zero, stGet_succ, cInt_eq, mulM_ok, addM_ok, subM_ok,
    two_mul_natCast_add_one, ← Int.natCast_add_one, subscriptM_list, hfl, natCast_sub_one he2, strSliceM_nat, reEscapeM_str,
    ptGroupM_patV, floordivM_two, reCompileSegM_then]

/-- the loop from segment number `i` on: `fl` (the list `indices` of the source) holds at the odd places `2 * (i + j) + 1` the ends of
the segments `rest` still to come, and every end is at least 1 (so that `end - 1` is again a natural number) -/
theorem cr_loop (e : List Char) (fl : List PyVal) (rest : List (Nat × Nat)) : ∀ (i endp : Nat) (acc : List Piece),
    (∀ j (h : j < rest.length), fl[2 * (i + j) + 1]? = some (.int ((rest[j]'h).2 : Int))) →
    (∀ ab ∈ rest, 1 ≤ ab.2) →
    loopS (enumV i (rest.map fun (ab : Nat × Nat) => V.py (.int (ab.1 : Int)))) (crBody (.py (.str e)) (.py (.list fl)))
        [.py (.int endp), patV acc] (crDone (.py (.str e))) =
      compiledOf (acc ++ piecesFrom e rest endp) := by
  induction rest with
  | nil => intro i endp acc _ _; exact crDone_eq e endp acc
  | cons ab tail ih =>
    intro i endp acc hfl hpos
    obtain ⟨idx, e2⟩ := ab
    simp only [List.map_cons, enumV, loopS, piecesFrom]
    rw [crBody_step e fl i idx e2 endp acc _ _ (hfl 0 (Nat.zero_lt_succ _)) (hpos _ List.mem_cons_self)]
    cases hp : isOkP (parsePattern (slice e (idx + 1) (e2 - 1))) with
    | true =>
      -- `hfl` for the tail: `i + (j + 1) = i + 1 + j`
      have hfl' : ∀ j (h : j < tail.length), fl[2 * (i + 1 + j) + 1]? = some (.int ((tail[j]'h).2 : Int)) :=
        fun j h => Nat.add_right_comm i j 1 ▸ hfl (j + 1) (Nat.succ_lt_succ h)
      rw [if_pos rfl, ih (i + 1) e2 _ hfl' (fun ab h => hpos ab (List.mem_cons_of_mem _ h)), List.append_assoc]
      rfl
    | false =>
      rw [if_neg Bool.false_ne_true]
      -- the segment that does not compile is one of the pieces
      exact (compiledOf_bad _ (by simp only [List.all_append, List.all_cons, segOk, hp, Bool.false_and, Bool.and_false])).symm

theorem flat_cons (ab : Nat × Nat) (rest : List (Nat × Nat)) : flat (ab :: rest) = .int ab.1 :: .int ab.2 :: flat rest := rfl

theorem everyOther_flat (ix : List (Nat × Nat)) : everyOther (flat ix) = ix.map fun ab => PyVal.int (ab.1 : Int) := by
  induction ix with
  | nil => rfl
  | cons ab rest ih => rw [flat_cons, everyOther, ih, List.map_cons]

theorem flat_odd (ix : List (Nat × Nat)) : ∀ j (h : j < ix.length), (flat ix)[2 * j + 1]? = some (.int ((ix[j]'h).2 : Int)) := by
  induction ix with
  | nil => intro j h; cases h
  | cons ab rest ih =>
    intro j h
    rw [flat_cons]
    cases j with
    | zero => rfl
    -- `2 * (k + 1) + 1` computes to `(2 * k + 1) + 2`: two places further on
    | succ k => exact ih k (Nat.lt_of_succ_lt_succ h)

theorem tagIdxAux_pos (s t : Char) (cs : List Char) : ∀ (i idx level : Nat) (acc res : List (Nat × Nat)),
    (∀ ab ∈ acc, 1 ≤ ab.2) → tagIdxAux s t cs i idx level acc = some res → ∀ ab ∈ res, 1 ≤ ab.2 := by
  induction cs with
  | nil =>
    intro i idx level acc res hacc h
    cases level with
    | zero => cases h; exact hacc
    | succ n => cases h
  | cons c rest ih =>
    intro i idx level acc res hacc h
    rw [tagIdxAux_cons] at h
    by_cases hs : c = s
    · rw [if_pos hs] at h
      exact ih _ _ _ _ _ hacc h
    · rw [if_neg hs] at h
      by_cases ht : c = t
      · rw [if_pos ht] at h
        match level, h with
        | 0, h => cases h
        | 1, h =>
          -- the one place where a pair is added: its second component is `i + 1`
          refine ih _ _ _ _ _ (fun ab hab => ?_) h
          cases List.mem_append.mp hab with
          | inl hab => exact hacc ab hab
          | inr hab => cases List.mem_singleton.mp hab; exact Nat.succ_pos i
        | n + 2, h => exact ih _ _ _ _ _ hacc h
      · rw [if_neg ht] at h
        exact ih _ _ _ _ _ hacc h

/-- **`compile_regex` as written in the source**: the compiled form of the pieces the index form cuts out of the phrase
(`scanByIndex`, which `scanByIndex_eq_scan` shows to be the scanner's pieces); `InvalidPatternError` for unbalanced delimiters,
`re.error` as soon as one segment is not a regular expression on its own -/
theorem gen_compile_regex (s t : Char) (e : List Char) :
    compile_regex (.py (.str e)) (.py (.str [s])) (.py (.str [t])) =
      (match scanByIndex s t e with
       | Option.none => raiseM
       | some ps => compiledOf ps) := by
  -- as in `gen_get_tag_indices`, with `crBody` / `crDone`
  show (bindM cEmptyPyList fun v_regex_vars => (bindM (cStr "") fun v_pattern => (bindM (cInt (0)) fun v_end =>
      (bindM (bindM (pure (.py (.str e))) fun a1 => (bindM (pure (.py (.str [s]))) fun a2 => (bindM (pure (.py (.str [t]))) fun a3 =>
        (get_tag_indices a1 a2 a3)))) fun v_indices =>
      (pyForS (enumerateM (stepSlice2M (pure v_indices))) (crBody (.py (.str e)) v_indices) [v_end, v_pattern]
        (crDone (.py (.str e)))))))) = _
  rw [bindM_pure3, gen_get_tag_indices]
  simp only [cEmptyPyList, cStr_eq, cInt_eq, pure_ok, bindM_ok, scanByIndex]
  cases hix : tagIndices s t e with
  | none => rfl
  | some ix =>
    simp only [bindM_ok, stepSlice2M_list, everyOther_flat, enumerateM_list, List.map_map, pyForS_seq, Option.map_some]
    exact cr_loop e (flat ix) ix 0 0 [] (fun j h => (Nat.zero_add j).symm ▸ flat_odd ix j h)
      (tagIdxAux_pos s t e 0 0 0 [] ix (fun ab h => by cases h) hix)

/-- … in the scanner's words (`scanByIndex_eq_scan` in `Proofs/TagIndex.lean`, which C03 states as `index_form_eq_scanner`): literal
text outside the delimiters, every top-level tagged segment a regular expression of its own -/
theorem gen_compile_regex_scan (s t : Char) (e : List Char) :
    compile_regex (.py (.str e)) (.py (.str [s])) (.py (.str [t])) =
      (match scan s t e with
       | Option.none => raiseM
       | some ps => compiledOf ps) := by
  rw [gen_compile_regex, scanByIndex_eq_scan]

end Vakt.GenEquiv
