import Gen.Observable
import Gen.Lemmas
import Proofs.Backends
/-!
# The translated methods of `ObservableMutationStorage` are the model's `obsStep`

`/repo/vakt/storage/observable.py`, the call of the wrapped storage and `self.notify()` made explicit as effects on a world value.  Against
`Backends.obsStep` over the abstract store: a mutation that returns is followed by exactly one notification, one that raises by none,
reads by none.
-/
namespace Vakt.GenEquiv
open Vakt PyVal Vakt.PyPrim Vakt.GenObservable Vakt.Store

/-- the wrapped storage as the abstract store (no client calls recorded) -/
def absStep (cfg : Cfg) : St → Op → St × Out × List Backends.Call := fun s op => ((Store.step cfg s op).1, (Store.step cfg s op).2, [])

/-- how a method of the observable wrapper ends, against `obsStep`: the wrapped store, the number of notifications, the value (the
shape is explained at `EOutcome`, `EquivEnfold.lean`) -/
def OOutcome (m : M) (cfg : Cfg) (r : Backends.Obs St × Out × List Backends.Call) : Prop :=
  match r.2.1 with
  | .done => m = .ok (.seq [.py .none, .eworld cfg ⟨[], r.1.inner⟩ true r.1.notified Option.none])
  | .pol Option.none => m = .ok (.seq [.py .none, .eworld cfg ⟨[], r.1.inner⟩ true r.1.notified Option.none])
  | .pol (some p) => ∃ u, m = .ok (.seq [.polv u p true, .eworld cfg ⟨[], r.1.inner⟩ true r.1.notified Option.none])
  | .pols l => m = .ok (.seq [.pols l, .eworld cfg ⟨[], r.1.inner⟩ true r.1.notified Option.none])
  | e => m = .ok (.eworld cfg ⟨[], r.1.inner⟩ true r.1.notified (some e))

/-- the world of the wrapper before a call: the wrapped store, `n` notifications so far -/
def OW (cfg : Cfg) (s : St) (n : Nat) : V := .eworld cfg ⟨[], s⟩ false n Option.none

/-- **A method of the wrapper that passes the call on to the wrapped storage and, iff the operation is a mutation, goes on to
`self.notify()` once the call has returned**, is `obsStep` of that operation.  `k` is what the method does with the value and the
world after the call. -/
theorem gen_observable_method (cfg : Cfg) (s : St) (n : Nat) (meth : String) (args : List M) (vs : List V) (op : Op) (k : V → V → M)
    (ha : evalArgs args = .ok vs) (hop : storeOpOf meth vs true = some op)
    (hk : ∀ v st, k v (.eworld cfg st true n Option.none) =
      .ok (.seq [v, .eworld cfg st true (if Backends.isMutation op then n + 1 else n) Option.none])) :
    OOutcome (stCallM "storage" meth args (.ok (OW cfg s n)) k) cfg (Backends.obsStep (absStep cfg) ⟨s, n⟩ op) := by
  simp only [OW, stCallM_storage, ha, hop, hk]
  unfold Backends.obsStep absStep
  -- the method notifies whenever a mutation returned, the model when it answered `done`: a mutation returns nothing else
  have hout := Backends.step_mutation_cases cfg s op
  generalize Store.step cfg s op = r at hout ⊢
  obtain ⟨s', out⟩ := r
  cases hm : Backends.isMutation op
  · cases out with
    | pol q => cases q with
      | none => rfl
      | some q => exact ⟨_, rfl⟩
    | _ => rfl
  · rcases hout hm with h | h | h <;> cases h <;> rfl

theorem gen_observable_add (cfg : Cfg) (s : St) (n : Nat) (self : V) (u : Uid) (p : Pol) (ok : Bool) :
    OOutcome (add_Observable self (.polv u p ok) (OW cfg s n)) cfg
      (Backends.obsStep (absStep cfg) ⟨s, n⟩ (.add u p ok)) :=
  gen_observable_method cfg s n "add" _ _ (.add u p ok) _ rfl rfl fun _ _ => rfl

theorem gen_observable_update (cfg : Cfg) (s : St) (n : Nat) (self : V) (u : Uid) (p : Pol) (ok : Bool) :
    OOutcome (update_Observable self (.polv u p ok) (OW cfg s n)) cfg
      (Backends.obsStep (absStep cfg) ⟨s, n⟩ (.update u p ok)) :=
  gen_observable_method cfg s n "update" _ _ (.update u p ok) _ rfl rfl fun _ _ => rfl

theorem gen_observable_delete (cfg : Cfg) (s : St) (n : Nat) (self : V) (u : Uid) :
    OOutcome (delete_Observable self (.py (.str u)) (OW cfg s n)) cfg
      (Backends.obsStep (absStep cfg) ⟨s, n⟩ (.delete u)) :=
  gen_observable_method cfg s n "delete" _ _ (.delete u) _ rfl rfl fun _ _ => rfl

theorem gen_observable_get (cfg : Cfg) (s : St) (n : Nat) (self : V) (u : Uid) :
    OOutcome (get_Observable self (.py (.str u)) (OW cfg s n)) cfg
      (Backends.obsStep (absStep cfg) ⟨s, n⟩ (.get u)) :=
  gen_observable_method cfg s n "get" _ _ (.get u) _ rfl rfl fun _ _ => rfl

theorem gen_observable_get_all (cfg : Cfg) (s : St) (n : Nat) (self : V) (l o : Int) :
    OOutcome (get_all_Observable self (.py (.int l)) (.py (.int o)) (OW cfg s n)) cfg
      (Backends.obsStep (absStep cfg) ⟨s, n⟩ (.getAll l o)) :=
  gen_observable_method cfg s n "get_all" _ _ (.getAll l o) _ rfl rfl fun _ _ => rfl

theorem gen_observable_retrieve_all (cfg : Cfg) (s : St) (n : Nat) (self : V) (b : Int) :
    OOutcome (retrieve_all_Observable self (.seq [.py (.int b)]) (.py (.dict [])) (OW cfg s n)) cfg
      (Backends.obsStep (absStep cfg) ⟨s, n⟩ (.retrieveAll b)) := by
  unfold retrieve_all_Observable
  simp only [pure_ok, stCallStarM_ok]
  exact gen_observable_method cfg s n "retrieve_all" _ _ (.retrieveAll b) _ rfl rfl fun _ _ => rfl

end Vakt.GenEquiv
