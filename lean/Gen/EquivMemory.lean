import Gen.Memory
import Gen.Lemmas
import Proofs.Backends
/-!
# The translated methods of `MemoryStorage` are the concrete model `memStep`

`/repo/vakt/storage/memory.py`, and `Storage._check_limit_and_offset` and `Storage.retrieve_all` of `vakt/storage/abc.py`.  The dictionary
`self.policies` is the world the methods act on (`with self.lock:` runs its body); each method leaves the dictionary `Backends.memStep`
computes and returns / raises what it says; `memStep` in turn refines the abstract store (`memory_refines`, `Props/C08Backends.lean`).
-/
namespace Vakt.GenEquiv
open Vakt PyVal Vakt.PyPrim Vakt.GenMemory Vakt.Store Vakt.Backends

/-- the world of a `MemoryStorage`: `self.policies` in the backend component, nothing raised -/
def MW (cfg : Cfg) (d : St) : V := .eworld cfg ⟨[], d⟩ false 0 Option.none

def polsV' (l : St) : List V := l.map fun (x : Uid × Pol) => V.polv x.1 x.2 true

/-- how a method ends, against `memStep` (its recorded client calls aside); the shape is explained at `EOutcome` (`EquivEnfold.lean`) -/
def MOutcome (m : M) (cfg : Cfg) (r : St × Out × List Call) : Prop :=
  match r.2.1 with
  | .done => m = .ok (.seq [.py .none, MW cfg r.1])
  | .pol Option.none => m = .ok (.seq [.py .none, MW cfg r.1])
  | .pol (some p) => ∃ u, m = .ok (.seq [.polv u p true, MW cfg r.1])
  | .pols l => m = .ok (.seq [.seq (polsV' l), MW cfg r.1])
  | e => m = .ok (.eworld cfg ⟨[], r.1⟩ false 0 (some e))

theorem dictInM_MW (u : Uid) (cfg : Cfg) (d : St) :
    dictInM (.ok (.py (.str u))) (.ok (MW cfg d)) = .ok (.py (.bool (dictGet u d).isSome)) := rfl

theorem dictSetM_MW (u u' : Uid) (p : Pol) (ok : Bool) (cfg : Cfg) (d : St) (k : V → M) :
    dictSetM (.ok (.py (.str u))) (.ok (.polv u' p ok)) (.ok (MW cfg d)) k = k (MW cfg (dictSet u p d)) := rfl

theorem dictDelM_MW (u : Uid) (cfg : Cfg) (d : St) (k : V → M) :
    dictDelM (.ok (.py (.str u))) (.ok (MW cfg d)) k = if (dictGet u d).isSome then k (MW cfg (dictDel u d)) else raiseM := rfl

theorem dictGetM_MW (u : Uid) (cfg : Cfg) (d : St) :
    dictGetM (.ok (.py (.str u))) (.ok (MW cfg d)) =
      (match dictGet u d with | some p => .ok (.polv u p true) | Option.none => cNone) := rfl

theorem gen_check_limit (cfg : Cfg) (d : St) (l o : Int) :
    check_limit_and_offset_Storage (.py (.int l)) (.py (.int o)) (MW cfg d) =
      if checkLimitOffset l o then .ok (.eworld cfg ⟨[], d⟩ false 0 (some .valueError)) else .ok (.seq [.py .none, MW cfg d]) :=
  check_limit_body l o _ _

theorem gen_memory_add (cfg : Cfg) (d : St) (self : V) (u : Uid) (p : Pol) (ok : Bool) :
    MOutcome (add_MemoryStorage self (.polv u p ok) (MW cfg d)) cfg (memStep d (.add u p ok)) := by
  unfold add_MemoryStorage
  simp only [memStep, pure_ok, attrM_uid, bindM_ok, dictInM_MW, iteM_ok, truth_bool, dictSetM_MW]
  cases dictGet u d <;> rfl

theorem gen_memory_update (cfg : Cfg) (d : St) (self : V) (u : Uid) (p : Pol) (ok : Bool) :
    MOutcome (update_MemoryStorage self (.polv u p ok) (MW cfg d)) cfg (memStep d (.update u p ok)) := by
  unfold update_MemoryStorage
  simp only [memStep, pure_ok, attrM_uid, dictInM_MW, pyNot_ok, iteM_ok, truth_bool, dictSetM_MW]
  cases dictGet u d <;> rfl

theorem gen_memory_delete (cfg : Cfg) (d : St) (self : V) (u : Uid) :
    MOutcome (delete_MemoryStorage self (.py (.str u)) (MW cfg d)) cfg (memStep d (.delete u)) := by
  unfold delete_MemoryStorage
  simp only [memStep, pure_ok, dictInM_MW, iteM_ok, truth_bool, dictDelM_MW]
  cases dictGet u d <;> rfl

theorem gen_memory_get (cfg : Cfg) (d : St) (self : V) (u : Uid) :
    MOutcome (get_MemoryStorage self (.py (.str u)) (MW cfg d)) cfg (memStep d (.get u)) := by
  unfold get_MemoryStorage
  simp only [memStep, pure_ok, dictGetM_MW]
  cases dictGet u d with
  | none => rfl
  | some q => exact ⟨_, rfl⟩

theorem gen_memory_find (cfg : Cfg) (d : St) (self q k : V) :
    find_for_inquiry_MemoryStorage self q k (MW cfg d) = .ok (.seq [.pols d, MW cfg d]) := rfl

theorem dictValuesM_MW (cfg : Cfg) (d : St) : dictValuesM (.ok (MW cfg d)) = .ok (.pols d) := rfl

/-- `[v for v in self.policies.values()]` -/
theorem listCompM_pols_id (d : St) : listCompM (.ok (.pols d)) (fun v => .ok v) = .ok (.seq (polsV' d)) :=
  listCompM_map _ _ _ d fun _ _ => rfl

theorem gen_memory_get_all (cfg : Cfg) (d : St) (self : V) (l o : Int) :
    MOutcome (get_all_MemoryStorage self (.py (.int l)) (.py (.int o)) (MW cfg d)) cfg (memStep d (.getAll l o)) := by
  unfold get_all_MemoryStorage
  simp only [memStep, memGetAll, pure_ok, bindM_ok, gen_check_limit]
  cases hc : checkLimitOffset l o
  · obtain ⟨hl, ho⟩ := checkLimitOffset_false hc
    -- the check passed: both bounds of the slice are non-negative, and the slice is the model's page
    simp only [Bool.false_eq_true, if_false, callProcM_pair, dictValuesM_MW, listCompM_pols_id, bindM_ok, addM_ok,
      sliceM_seq _ ho (Int.add_nonneg hl ho), polsV', pySlice_map]
    -- `offset > len(result) or limit == 0`: over the integers in the code, over the naturals in the model
    simp only [callLen_seq, List.length_map, cInt_eq, cmpGt_int, cmpEq_int, ofBool_eq, pyOr_bool, iteM_ok, truth_bool, gt_iff_lt,
      Int.lt_toNat]
    cases (Decidable.decide ((d.length : Int) < o) || l == 0) <;> rfl
  · rfl

/-- one round of `while True` -/
def retrBody (self : V) (v_limit : V) : List V → (List V → M) → (List V → M) → M := fun s1 k1 _ =>
      (bindM (callList (pagerGetAllM (pure self) (pure v_limit) (pure (stGet s1 1)))) fun v_policies =>
      (iteM (cmpEq (callLen (pure v_policies)) (cInt (0)))
      (pure (stGet s1 0))
      (pyForS (pure v_policies) (fun l2_policy s2 k2 _ =>
      (bindM (appendM (pure (stGet s2 0)) (pure l2_policy)) fun v___y =>
      (k2 [v___y])))
      [(stGet s1 0)]
      (fun r2 => (bindM (addM (pure (stGet s1 1)) (pure v_limit)) fun v_offset =>
      (k1 [(stGet r2 0), v_offset]))))))

theorem retrBody_step (ga : Int → Int → Option St) (batch off : Int) (acc : List V) (k b : List V → M) :
    retrBody (.pager ga) (.py (.int batch)) [.seq acc, .py (.int off)] k b =
      (match ga batch off with
       | Option.none => raiseM
       | some pg => if pg.isEmpty then .ok (.seq acc) else k [.seq (acc ++ polsV' pg), .py (.int (off + batch))]) := by
  simp only [retrBody, stGet_zero, stGet_succ, pure_ok, pagerGetAllM, bindM_ok]
  cases ga batch off with
  | none => rfl
  | some pg =>
    simp only [callList_pols, bindM_ok, callLen_pols, cInt_eq, cmpEq_int, length_beq_zero, ofBool_eq, iteM_ok, truth_bool, pyForS_pols,
      loopS_yield Except.ok _ (fun (x : Uid × Pol) => .polv x.1 x.2 true) pg (fun _ _ => rfl), stGet_zero]
    rfl

theorem retr_loop (ga : Int → Int → Option St) (batch : Int) : ∀ (fuel : Nat) (off : Int) (acc : List V),
    whileS fuel (retrBody (.pager ga) (.py (.int batch))) [.seq acc, .py (.int off)] (fun r1 => pure (stGet r1 0)) =
      (match retrLoop ga batch fuel off with
       | Option.none => raiseM
       | some l => .ok (.seq (acc ++ polsV' l))) := by
  intro fuel
  induction fuel with
  | zero => intro off acc; simp only [whileS, retrLoop, polsV', List.map_nil, List.append_nil]; rfl
  | succ f ih =>
    intro off acc
    simp only [whileS, retrLoop, retrBody_step]
    cases ga batch off with
    | none => rfl
    | some pg =>
      cases pg with
      | nil => simp only [List.isEmpty_nil, if_true, polsV', List.map_nil, List.append_nil]
      | cons x rest =>
        simp only [List.isEmpty_cons, Bool.false_eq_true, if_false, ih]
        cases retrLoop ga batch f (off + batch) with
        | none => rfl
        | some l => simp only [polsV', List.map_append, List.append_assoc]

/-- **`Storage.retrieve_all` as written in the source is the model's `retrLoop`** over whatever `get_all` the storage has: what the
generator yields, in order, is the concatenation of the pages of size `batch` from offset 0 up to the first empty page; it raises
exactly when a `get_all` call does.  (Over a `get_all` that pages a fixed listing, with the model's bound on the rounds, this is
the abstract store's `retrieveAll`: `retr_paged` in `Proofs/Backends.lean`.) -/
theorem gen_retrieve_all (ga : Int → Int → Option St) (batch : Int) (fuel : Nat) :
    retrieve_all_Storage fuel (.pager ga) (.py (.int batch)) =
      (match retrLoop ga batch fuel 0 with
       | Option.none => raiseM
       | some l => .ok (.seq (polsV' l))) :=
  retr_loop ga batch fuel 0 []

end Vakt.GenEquiv
