import Gen.Redis
import Gen.Lemmas
import Proofs.Backends
/-!
# The translated methods of `RedisStorage` are the concrete model `redisStep`

`/repo/vakt/storage/redis.py`, the client calls (`hsetnx`, `hget`, the Lua updater, `hdel`) being effects on the hash, the serializer part of
the world.  For every serializer (also one that fails): a failing serializer or an `HSETNX` answering 0 is `PolicyExistsError`, an empty
stored value reads as "no such policy", `update` only overwrites an existing field; the listings are for a hash without repeated fields.
-/
namespace Vakt.GenEquiv
open Vakt PyVal Vakt.PyPrim Vakt.GenRedis Vakt.Store Vakt.Backends

/-- the world of a `RedisStorage`: the serializer and the hash, nothing raised -/
def RW (sr : Ser) (h : RHash) : V := .rworld sr h Option.none

/-- how a method ends, against `redisStep` (its recorded client calls aside); the shape is explained at `EOutcome` (`EquivEnfold.lean`) -/
def ROutcome (m : M) (sr : Ser) (r : RHash × Out × List Call) : Prop :=
  match r.2.1 with
  | .done => m = .ok (.seq [.py .none, RW sr r.1])
  | .pol Option.none => m = .ok (.seq [.py .none, RW sr r.1])
  | .pol (some p) => ∃ u, m = .ok (.seq [.polv u p true, RW sr r.1])
  | .pols l => m = .ok (.seq [.seq (l.map fun (x : Uid × Pol) => V.polv [] x.2 true), RW sr r.1])
  | e => m = .ok (.rworld sr r.1 (some e))

theorem serializeM_RW (u : Uid) (p : Pol) (ok : Bool) (sr : Ser) (h : RHash) :
    serializeM (.ok (.polv u p ok)) (.ok (RW sr h)) =
      (match sr.ser p with | some b => .ok (.bytes b) | Option.none => raiseM) := rfl

theorem hsetnxM_RW (u : Uid) (b : Bytes) (sr : Ser) (h : RHash) (k : V → V → M) :
    hsetnxM (.ok (.py (.str u))) (.ok (.bytes b)) (.ok (RW sr h)) k =
      if (dictGet u h).isSome then k (.py (.int 0)) (RW sr h) else k (.py (.int 1)) (RW sr (h ++ [(u, b)])) := rfl

theorem scriptUpdateM_RW (u : Uid) (b : Bytes) (sr : Ser) (h : RHash) (k : V → V → M) :
    scriptUpdateM (.ok (.py (.str u))) (.ok (.bytes b)) (.ok (RW sr h)) k =
      if (dictGet u h).isSome then k (.py (.int 0)) (RW sr (dictSet u b h)) else k (.py (.int 0)) (RW sr h) := rfl

theorem hgetM_RW (u : Uid) (sr : Ser) (h : RHash) (k : V → V → M) :
    hgetM (.ok (.py (.str u))) (.ok (RW sr h)) k =
      (match dictGet u h with | some b => k (.bytes b) (RW sr h) | Option.none => k (.py .none) (RW sr h)) := rfl

theorem hgetallM_RW (sr : Ser) (h : RHash) (k : V → V → M) : hgetallM (.ok (RW sr h)) k = k (.rhash h) (RW sr h) := rfl

theorem rhashItemsM_rhash (h : RHash) : rhashItemsM (.ok (.rhash h)) = .ok (.rhash h) := rfl
theorem callDictM_rhash (h : RHash) : callDictM (.ok (.rhash h)) = .ok (.rhash h) := rfl

theorem isliceM_rhash (h : RHash) {i j : Int} (hi : 0 ≤ i) (hj : 0 ≤ j) :
    isliceM (.ok (.rhash h)) (.ok (.py (.int i))) (.ok (.py (.int j))) = .ok (.rhash (islice h i.toNat j.toNat)) :=
  if_pos (bounds_ok hi hj)

theorem gen_redis_add (sr : Ser) (h : RHash) (self : V) (u : Uid) (p : Pol) (ok : Bool) :
    ROutcome (add_RedisStorage self (.polv u p ok) (RW sr h)) sr (redisStep sr h (.add u p ok)) := by
  unfold add_RedisStorage
  simp only [redisStep, pure_ok, attrM_uid, bindM_ok, serializeM_RW]
  cases sr.ser p with
  | none => rfl
  | some b =>
    simp only [hsetnxM_RW]
    cases dictGet u h <;> rfl

theorem gen_redis_update (sr : Ser) (h : RHash) (self : V) (u : Uid) (p : Pol) (ok : Bool) :
    ROutcome (update_RedisStorage self (.polv u p ok) (RW sr h)) sr (redisStep sr h (.update u p ok)) := by
  unfold update_RedisStorage
  simp only [redisStep, pure_ok, attrM_uid, bindM_ok, serializeM_RW]
  cases sr.ser p with
  | none => rfl
  | some b =>
    simp only [scriptUpdateM_RW]
    cases dictGet u h <;> rfl

theorem gen_redis_delete (sr : Ser) (h : RHash) (self : V) (u : Uid) :
    ROutcome (delete_RedisStorage self (.py (.str u)) (RW sr h)) sr (redisStep sr h (.delete u)) := rfl

theorem gen_redis_get (sr : Ser) (h : RHash) (self : V) (u : Uid) :
    ROutcome (get_RedisStorage self (.py (.str u)) (RW sr h)) sr (redisStep sr h (.get u)) := by
  unfold get_RedisStorage
  simp only [redisStep, pure_ok, hgetM_RW]
  cases dictGet u h with
  | none => rfl
  | some b =>
    cases b with
    | nil => rfl
    | cons x rest => exact ⟨_, rfl⟩

/-- in a dictionary (no field twice) every pair is found under its key -/
theorem dictGet_of_mem (h : RHash) (hn : (h.map (·.1)).Nodup) : ∀ kv ∈ h, dictGet kv.1 h = some kv.2 := by
  induction h with
  | nil => intro kv hkv; cases hkv
  | cons x rest ih =>
    obtain ⟨k, v⟩ := x
    simp only [List.map_cons, List.nodup_cons] at hn
    intro kv hkv
    simp only [List.mem_cons] at hkv
    rcases hkv with rfl | hmem
    · exact if_pos rfl
    · have hne : ¬ k = kv.1 := by
        intro e
        apply hn.1
        rw [e]
        exact List.mem_map_of_mem hmem
      simp only [dictGet, hne, if_false]
      exact ih hn.2 kv hmem

/-- `__feed_policies(data)` looks every key of `data` up in `data` again and deserializes what it finds -/
theorem gen_redis_feed (sr : Ser) (h h0 : RHash) (hn : (h.map (·.1)).Nodup) :
    feed_policies_RedisStorage (.rhash h) (RW sr h0) =
      .ok (.seq ((Backends.feed sr h).map fun (x : Uid × Pol) => V.polv [] x.2 true)) := by
  unfold feed_policies_RedisStorage
  simp only [cEmptyList, bindM_ok, pure_ok, pyForS, items]
  rw [loopS_yield (fun x => deserializeM (rhashGetM (.ok (.rhash h)) (.ok x)) (.ok (RW sr h0))) _
    (fun (x : Uid × Bytes) => .polv [] (sr.deser x.2) true) h
    (fun x hx => by simp only [rhashGetM, bindM_ok, dictGet_of_mem h hn x hx]; rfl)]
  simp only [stGet_zero, List.nil_append, Backends.feed, List.map_map]
  rfl

theorem gen_redis_check (sr : Ser) (h : RHash) (l o : Int) :
    check_limit_and_offset_StorageR (.py (.int l)) (.py (.int o)) (RW sr h) =
      if checkLimitOffset l o then .ok (.rworld sr h (some .valueError)) else .ok (.seq [.py .none, RW sr h]) :=
  check_limit_body l o _ _

theorem gen_redis_get_all (sr : Ser) (h : RHash) (self : V) (l o : Int) (hn : (h.map (·.1)).Nodup) :
    ROutcome (get_all_RedisStorage self (.py (.int l)) (.py (.int o)) (RW sr h)) sr (redisStep sr h (.getAll l o)) := by
  unfold get_all_RedisStorage
  simp only [redisStep, redisGetAll, pure_ok, bindM_step, gen_redis_check]
  cases hc : checkLimitOffset l o
  · obtain ⟨hl, ho⟩ := checkLimitOffset_false hc
    -- the check passed: both bounds of the slice are non-negative, the slice is the model's page, and it is fed as a dictionary
    simp only [Bool.false_eq_true, if_false, callProcM_pair, hgetallM_RW, rhashItemsM_rhash, addM_ok,
      isliceM_rhash h ho (Int.add_nonneg hl ho), bindM_step, callDictM_rhash, gen_redis_feed sr _ h (islice_nodup h _ _ hn)]
    rfl
  · rfl

theorem gen_redis_find (sr : Ser) (h : RHash) (self q k : V) (hn : (h.map (·.1)).Nodup) :
    find_for_inquiry_RedisStorage self q k (RW sr h) =
      .ok (.seq [.seq ((Backends.feed sr h).map fun (x : Uid × Pol) => V.polv [] x.2 true), RW sr h]) := by
  unfold find_for_inquiry_RedisStorage
  simp only [pure_ok, hgetallM_RW, bindM_step, gen_redis_feed sr h h hn]
  cases h <;> rfl

theorem translatedRedis_covers : translatedRedis =
    ["_check_limit_and_offset", "__feed_policies", "add", "get", "update", "delete", "get_all", "find_for_inquiry"] := rfl

end Vakt.GenEquiv
