import Gen.Subject
import Gen.Lemmas
/-!
# The translated publisher `vakt.util.Subject`: `__init__`, `add_listener`, `remove_listener`, `notify`

`/repo/vakt/util.py`.  The world `subjW` is the list of attached listeners and the list of `update()` calls made so far; `notify` updates every
attached listener exactly once, in order (`gen_notify`).  So with the one listener `create_cached_guard` attaches, the `notify()` that ends a
successful mutation of `ObservableMutationStorage` is one invalidation of the decision cache (C11): `notify_single_listener`.
-/
namespace Vakt.GenEquiv
open Vakt PyVal Vakt.PyPrim Vakt.GenSubject

theorem gen_subject_init (self junk : V) (calls : List PyVal) :
    init_Subject self (.seq [junk, .py (.list calls)]) = .ok (.seq [.py .none, subjW [] calls]) := rfl

theorem gen_add_listener (self : V) (v : PyVal) (ls calls : List PyVal) :
    add_listener_Subject self (.py v) (subjW ls calls) = .ok (.seq [.py .none, subjW (ls ++ [v]) calls]) := rfl

theorem gen_remove_listener (self : V) (n : Int) (ls calls : List PyVal) :
    remove_listener_Subject self (.py (.int n)) (subjW ls calls) =
      (match eraseFirstId n ls with
       | some ls' => .ok (.seq [.py .none, subjW ls' calls])
       | Option.none => raiseM) := by
  show (match eraseFirstId n ls with
       | some ls' => pairM cNone (pure (subjW ls' calls))
       | Option.none => raiseM) = _
  cases eraseFirstId n ls <;> rfl

theorem notify_loop (body : V → List V → (List V → M) → (List V → M) → M) (all : List PyVal)
    (hbody : ∀ v calls kc bc, body (.py v) [subjW all calls] kc bc = kc [subjW all (calls ++ [v])]) (k : List V → M) :
    ∀ (rest calls : List PyVal), loopS (rest.map V.py) body [subjW all calls] k = k [subjW all (calls ++ rest)]
  | [], calls => by rw [List.append_nil]; rfl
  | v :: tail, calls => by
    rw [List.map_cons, loopS, hbody, notify_loop body all hbody k tail, List.append_assoc]; rfl

/-- **`notify` as written in the source**: every attached listener is updated exactly once, in order; the listeners stay -/
theorem gen_notify (self : V) (ls calls : List PyVal) :
    notify_Subject self (subjW ls calls) = .ok (.seq [.py .none, subjW ls (calls ++ ls)]) :=
  notify_loop _ ls (fun _ _ _ _ => rfl) _ ls calls

/-- the number of `update()` calls a listener has received -/
def updatesOf (n : Int) (calls : List PyVal) : Nat := (calls.filter fun c => match c with | .int m => m == n | _ => false).length

/-- with one attached listener (what `create_cached_guard` sets up), a notification is exactly one more `update()` of it -/
theorem notify_single_listener (self : V) (n : Int) (calls : List PyVal) :
    notify_Subject self (subjW [.int n] calls) = .ok (.seq [.py .none, subjW [.int n] (calls ++ [.int n])]) ∧
    updatesOf n (calls ++ [.int n]) = updatesOf n calls + 1 := by
  refine ⟨gen_notify self [.int n] calls, ?_⟩
  have h : ([PyVal.int n].filter fun c => match c with | .int m => m == n | _ => false) = [.int n] :=
    List.filter_cons_of_pos (beq_self_eq_true n)
  rw [updatesOf, List.filter_append, List.length_append, h]
  rfl

theorem translatedSubject_covers :
    translatedSubject = ["Subject.__init__", "Subject.add_listener", "Subject.remove_listener", "Subject.notify"] := rfl

end Vakt.GenEquiv
