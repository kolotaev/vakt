import Gen.Checkers
import Gen.Lemmas
/-!
# The translated `RegexChecker.fits` is the model's `regexFits`

`/repo/vakt/checker.py` (`Gen/Checkers.lean`), observed through truthiness, for every policy, field, offered value and inquiry; so the
theorems of `Props/C03.lean` about `regexFits` / `regexElem` are theorems about the method as written in the source.
-/
namespace Vakt.GenEquiv
open Vakt PyVal Vakt.PyPrim Vakt.GenCheckers

theorem tryCompileM_str (e : List Char) (s t : Char) (onInvalid : M) (rest : V → M) :
    tryCompileM (.ok (.py (.str e))) (.ok (.py (.str [s]))) (.ok (.py (.str [t]))) onInvalid rest =
      (match TagParser.scan s t e with
       | Option.none => onInvalid
       | some ps => (match piecesRe ps with
         | .ok r _ => rest (.pattern r)
         | _ => raiseM)) := rfl

theorem reFullmatchM_pattern (r : Re) (w : PyVal) :
    reFullmatchM (.ok (.pattern r)) (.ok (.py w)) = (match w with | .str cs => ofBool (r.accepts cs) | _ => raiseM) := by
  cases w <;> rfl

/-- the test `policy.start_tag not in i and policy.end_tag not in i` is the model's `!tagged` -/
theorem not_tagged_eval (s t : Char) (cs : List Char) :
    (pyAnd (cmpNotIn (.ok (.py (.str [s]))) (.ok (.py (.str cs)))) fun _ => cmpNotIn (.ok (.py (.str [t]))) (.ok (.py (.str cs)))) =
      .ok (.py (.bool (!TagParser.tagged s t cs))) := by
  simp only [cmpNotIn_str, ofBool_eq, pyAnd_ok, truth_bool, isInfix_single, TagParser.tagged]
  cases cs.contains s <;> rfl

/-- the body of the loop of `RegexChecker.fits` -/
def rxBody (p : Policy) (w : PyVal) : V → M → M := fun l1_i k1 =>
      (iteM (typeIsNotStrM (pure l1_i))
      k1
      (iteM (pyAnd (cmpNotIn (attrPolicyM (pure (V.policy p)) "start_tag") (pure l1_i)) (fun _ => (cmpNotIn (attrPolicyM (pure (V.policy p)) "end_tag") (pure l1_i))))
      (iteM (cmpNe (pure l1_i) (pure (V.py w)))
      k1
      cTrue)
      (tryCompileM (pure l1_i) (attrPolicyM (pure (V.policy p)) "start_tag") (attrPolicyM (pure (V.policy p)) "end_tag")
      cFalse
      (fun v_pattern => (iteM (reFullmatchM (pure v_pattern) (pure (V.py w)))
      cTrue
      k1)))))

/-- one iteration on a string element is the model's `regexElem` -/
theorem rxBody_str (p : Policy) (w : PyVal) (cs : List Char) (k : M) :
    rxBody p w (V.py (.str cs)) k =
      (match regexElem p.stag p.etag cs w with
       | .next => k
       | .done r => liftR r) := by
  -- evaluate: the type test is false on a string, `not_tagged_eval` gives the model's `tagged`, `tryCompileM_str` and
  -- `reFullmatchM_pattern` expose the scan, `piecesRe` and `accepts` on which `regexElem` (the last name) branches
  simp only [rxBody, pure_ok, typeIsNotStrM_str, not_tagged_eval, cmpNe_py, attr_stag, attr_etag, tryCompileM_str,
    reFullmatchM_pattern, ofBool_eq, iteM_ok, truth_bool, Bool.false_eq_true, ↓reduceIte, regexElem]
  cases TagParser.tagged p.stag p.etag cs
  · cases pyEq (.str cs) w <;> rfl                 -- no delimiter: plain equality
  · cases TagParser.scan p.stag p.etag cs with     -- tagged: compile (scan, then `piecesRe`), then `fullmatch`
    | none => rfl
    | some ps =>
      dsimp only
      cases piecesRe ps with
      | ok r rest =>
        cases w with
        | str ws => dsimp only; cases r.accepts ws <;> rfl
        | _ => rfl
      | invalid => rfl
      | unsupported => rfl

theorem loop_regex (p : Policy) (w : PyVal) (es : List Elem) :
    toR (loopM (es.map elemV) (rxBody p w) cFalse) = regexLoop p.stag p.etag w es := by
  refine loopM_toR elemV _ _ _ rfl (fun e rest k ih => ?_) es
  cases e with
  | str cs =>
    rw [elemV, rxBody_str, regexLoop]
    cases regexElem p.stag p.etag cs w with
    | next => exact ih
    | done r => exact toR_liftR r
  -- `type(item) != str` on a rule or an attribute dictionary: the body is `continue`
  | rule r => exact ih
  | attrs kvs => exact ih

/-- **`RegexChecker.fits` as written in the source is the model's `regexFits`** (`self.compile` read as
`compile_regex`: the LRU cache in front of it is transparent, C03 `compile_cache_transparent`) -/
theorem gen_RegexChecker_fits (p : Policy) (f : Field) (w : PyVal) (q : V) :
    toR (fits_RegexChecker (.policy p) (.py (.str (fieldName f).toList)) (.py w) q) = regexFits p f w := by
  unfold fits_RegexChecker
  simp only [pure_ok, getattrDynM_field, bindM_ok, pyFor_seq]
  exact loop_regex p w (p.field f)

theorem translatedRegexChecker_covers : "RegexChecker" ∈ translatedCheckers := by decide

end Vakt.GenEquiv
