import Gen.Enfold
import Gen.Lemmas
import Proofs.Store
/-!
# The translated methods of `EnfoldCache` are the model's `Enfold.step`

`/repo/vakt/cache.py`, with every call of `self.storage` / `self.cache` made explicit as an effect on a world value (the two stores,
whether the backend was called, the exception a call ended in).  Run on a world holding any two stores, each method ends in the
pair of stores `Enfold.step` computes, returns or raises what it says, and calls the backend exactly when it says so.
-/
namespace Vakt.GenEquiv
open Vakt PyVal Vakt.PyPrim Vakt.GenEnfold Vakt.Store Vakt.Enfold

/-- the world before a call: nothing raised, the backend not yet called -/
def W0 (cfg : Cfg) (s : EState) : V := .eworld cfg s false 0 Option.none

/-- how a method call ends, against the model's (state, output, backend touched).  The six predicates of this kind (`MOutcome`,
`OOutcome`, `ROutcome`, `MgOutcome`, `SOutcome` in the files of the other storages) share the shape: a method that returns ends in
the pair of its value and the world, the world holding the model's state; the last arm is a method that raises (`existsErr`,
`valueError`, `rejected`): it ends in the world alone, the exception recorded in it.  `∃ u` where a policy is returned: `Out.pol`
carries no uid, so the predicate says which policy comes back and not under which uid. -/
def EOutcome (m : M) (cfg : Cfg) (r : EState × Out × Bool) : Prop :=
  match r.2.1 with
  | .done => m = .ok (.seq [.py .none, .eworld cfg r.1 r.2.2 0 Option.none])
  | .pol Option.none => m = .ok (.seq [.py .none, .eworld cfg r.1 r.2.2 0 Option.none])
  | .pol (some p) => ∃ u, m = .ok (.seq [.polv u p true, .eworld cfg r.1 r.2.2 0 Option.none])
  | .pols l => m = .ok (.seq [.pols l, .eworld cfg r.1 r.2.2 0 Option.none])
  | e => m = .ok (.eworld cfg r.1 r.2.2 0 (some e))

theorem gen_enfold_add (cfg : Cfg) (s : EState) (self : V) (u : Uid) (p : Pol) (ok : Bool) :
    EOutcome (add_EnfoldCache self (.polv u p ok) (W0 cfg s)) cfg (Enfold.step cfg s (.add u p ok)) := by
  unfold add_EnfoldCache W0 Enfold.step
  simp only [pure_ok, bindM_ok, stCallM_storage, evalArgs_one, storeOpOf, if_true]
  rcases step_add_cases cfg s.backend u p ok with h | h | h <;> rw [h]
  · simp only [retV, stCallM_cache, evalArgs_one, storeOpOf, Bool.false_eq_true, if_false]
    rcases step_add_cases memCfg s.cache u p true with h' | h' | h' <;> rw [h'] <;> rfl
  · rfl
  · rfl

theorem gen_enfold_update (cfg : Cfg) (s : EState) (self : V) (u : Uid) (p : Pol) (ok : Bool) :
    EOutcome (update_EnfoldCache self (.polv u p ok) (W0 cfg s)) cfg (Enfold.step cfg s (.update u p ok)) := by
  unfold update_EnfoldCache W0 Enfold.step
  simp only [pure_ok, bindM_ok, stCallM_storage, evalArgs_one, storeOpOf, if_true]
  rcases step_update_cases cfg s.backend u p ok with ⟨b', h⟩ | h <;> rw [h]
  · simp only [retV, stCallM_cache, evalArgs_one, storeOpOf, Bool.false_eq_true, if_false]
    rcases step_update_cases memCfg s.cache u p true with ⟨c', h'⟩ | h' <;> rw [h'] <;> rfl
  · rfl

theorem gen_enfold_delete (cfg : Cfg) (s : EState) (self : V) (u : Uid) :
    EOutcome (delete_EnfoldCache self (.py (.str u)) (W0 cfg s)) cfg (Enfold.step cfg s (.delete u)) := by
  unfold delete_EnfoldCache W0
  simp only [pure_ok, bindM_ok, stCallM_storage, stCallM_cache, evalArgs_one, storeOpOf]
  rfl

theorem gen_enfold_get (cfg : Cfg) (s : EState) (self : V) (u : Uid) :
    EOutcome (get_EnfoldCache self (.py (.str u)) (W0 cfg s)) cfg (Enfold.step cfg s (.get u)) := by
  unfold get_EnfoldCache W0 Enfold.step
  simp only [pure_ok, bindM_ok, stCallM_cache, evalArgs_one, storeOpOf, step_get]
  cases lookup u s.cache with
  | some q => exact ⟨_, rfl⟩
  | none =>
    simp only [retV, iteM_ok, stCallM_storage, evalArgs_one, storeOpOf, step_get]
    cases lookup u s.backend with
    | some q => exact ⟨_, rfl⟩
    | none => rfl

/-- `result = list(self.cache.<meth>(..)); if len(result) > 0: return result`, else `return self.storage.<meth>(..)`: the body of
`get_all` and `retrieve_all`, for a call that leaves a store alone and answers a page or `ValueError`.  The right-hand side is the
branch `Enfold.step` has for these two operations, with `op` in their place.  `generalizing := false`: the hypotheses `hc`, `hb` mention
the discriminant, and generalised over them the `match` would no longer be the one `Enfold.step` unfolds to. -/
theorem listing_or_backend (cfg : Cfg) (s : EState) (meth : String) (args : List M) (vs : List V) (op : Op)
    (ha : evalArgs args = .ok vs) (hop : ∀ b, storeOpOf meth vs b = some op)
    (hc : Store.step memCfg s.cache op = (s.cache, .valueError) ∨ ∃ pg, Store.step memCfg s.cache op = (s.cache, .pols pg))
    (hb : Store.step cfg s.backend op = (s.backend, .valueError) ∨ ∃ pg, Store.step cfg s.backend op = (s.backend, .pols pg)) :
    EOutcome
      (stCallM "cache" meth args (.ok (W0 cfg s)) fun r1 w1 =>
        bindM (callList (.ok r1)) fun v_result =>
          iteM (cmpGt (callLen (.ok v_result)) (cInt 0)) (pairM (.ok v_result) (.ok w1))
            (stCallM "storage" meth args (.ok w1) fun r2 w2 => pairM (.ok r2) (.ok w2)))
      cfg
      (match (generalizing := false) Store.step memCfg s.cache op with
       | (_, .pols (x :: xs)) => (s, .pols (x :: xs), false)
       | (_, .valueError) => (s, .valueError, false)
       | _ => (s, (Store.step cfg s.backend op).2, true)) := by
  simp only [W0, stCallM_cache, stCallM_storage, ha, hop]
  rcases hc with hc | ⟨pg, hc⟩ <;> rw [hc]
  · rfl
  · cases pg with
    | cons x xs =>
      simp only [retV, callList_pols, bindM_ok, callLen_pols, cInt_eq, cmpGt_int, ofBool_eq, iteM_ok, truth_bool, List.length_cons,
        Int.natCast_pos, Nat.zero_lt_succ, decide_true, if_true]
      rfl
    | nil => rcases hb with hb | ⟨pg', hb⟩ <;> rw [hb] <;> rfl

theorem gen_enfold_get_all (cfg : Cfg) (s : EState) (self : V) (l o : Int) :
    EOutcome (get_all_EnfoldCache self (.py (.int l)) (.py (.int o)) (W0 cfg s)) cfg (Enfold.step cfg s (.getAll l o)) :=
  listing_or_backend cfg s "get_all" _ _ (.getAll l o) rfl (fun _ => rfl) (step_getAll_cases ..) (step_getAll_cases ..)

/-- `populate`'s loop over what the backend listed is the model's `feed` -/
theorem pop_loop (cfg : Cfg) (b : St) (all : St) : ∀ (c : St),
    EOutcome
      (loopS (all.map fun (x : Uid × Pol) => V.polv x.1 x.2 true)
        (fun l2_p s2 k2 _ => stCallM "cache" "add" [(pure l2_p)] (pure (stGet s2 0)) fun _ w3 => k2 [w3])
        [.eworld cfg ⟨c, b⟩ true 0 Option.none] (fun r2 => pairM cNone (pure (stGet r2 0))))
      cfg (⟨(feed c all).1, b⟩, (feed c all).2, true) := by
  induction all with
  | nil => intro c; rfl
  | cons x rest ih =>
    intro c
    simp only [List.map_cons, loopS, stGet_zero, pure_ok, stCallM_cache, evalArgs_one, storeOpOf, Bool.false_eq_true, if_false, feed]
    rcases step_add_cases memCfg c x.1 x.2 true with h | h | h <;> rw [h]
    · exact ih _
    · rfl
    · rfl

theorem gen_enfold_populate (cfg : Cfg) (s : EState) (self : V) (batch : Nat) :
    EOutcome (populate_EnfoldCache self (.py (.int (batch : Int))) (W0 cfg s)) cfg (Enfold.step cfg s (.populate batch)) := by
  unfold populate_EnfoldCache W0
  simp only [pure_ok, stCallM_storage, evalArgs_one, storeOpOf, step_retrieveAll_nat, retV, pyForS_pols]
  exact pop_loop cfg s.backend _ s.cache

/-- **`EnfoldCache.retrieve_all(*args, **kwargs)`** called with the batch size as its one positional argument -/
theorem gen_enfold_retrieve_all (cfg : Cfg) (s : EState) (self : V) (b : Int) :
    EOutcome (retrieve_all_EnfoldCache self (.seq [.py (.int b)]) (.py (.dict [])) (W0 cfg s)) cfg
      (Enfold.step cfg s (.retrieveAll b)) := by
  unfold retrieve_all_EnfoldCache
  simp only [pure_ok, stCallStarM_ok, List.map_cons, List.map_nil]
  exact listing_or_backend cfg s "retrieve_all" _ _ (.retrieveAll b) rfl (fun _ => rfl) (step_retrieveAll_cases ..)
    (step_retrieveAll_cases ..)

end Vakt.GenEquiv
