import Gen.Parser
import Gen.Lemmas
import Proofs.TagIndex
/-!
# The translated `get_tag_indices` is the model's `tagIndices`

`/repo/vakt/parser.py`.  With `index_form_eq_scanner` (C03) the theorems about the scanner are theorems about this function as it is
written in the source.  `translatedParser_covers` at the end lists both functions translated from that file: the theorem about the
other, `compile_regex`, is in `EquivCompile.lean`, which builds on this file (`flat`, `gen_get_tag_indices`).
-/
namespace Vakt.GenEquiv
open Vakt PyVal Vakt.PyPrim Vakt.GenParser Vakt.TagParser

theorem natCast_add_one_beq_one (n : Nat) : ((n : Int) + 1 == 1) = Decidable.decide (n = 0) := by
  rw [Bool.eq_iff_iff, beq_iff_eq, decide_eq_true_eq]
  omega
theorem natCast_succ_sub_one (n : Nat) : ((n + 1 : Nat) : Int) - 1 = n := Int.add_sub_cancel (n : Int) 1
theorem natCast_succ_beq_zero (n : Nat) : (((n + 1 : Nat) : Int) == 0) = false := rfl

theorem addM_int (a b : Int) : addM (.ok (V.py (.int a))) (cInt b) = .ok (V.py (.int (a + b))) := addM_ok a b
theorem subM_int (a b : Int) : subM (.ok (V.py (.int a))) (cInt b) = .ok (V.py (.int (a - b))) := subM_ok a b
theorem appendM_list (xs : List PyVal) (v : PyVal) :
    appendM (.ok (V.py (.list xs))) (.ok (V.py v)) = .ok (V.py (.list (xs ++ [v]))) := rfl

def charV (c : Char) : V := V.py (.str [c])

theorem enumerateM_str (e : List Char) : enumerateM (.ok (V.py (.str e))) = .ok (.seq (enumV 0 (e.map charV))) := rfl

theorem enumV_chars (i : Nat) (c : Char) (cs : List Char) :
    enumV i ((c :: cs).map charV) = V.seq [.py (.int i), .py (.str [c])] :: enumV (i + 1) (cs.map charV) := rfl

/-- the list `indices` of the source: start and end + 1 of every segment found so far, one after the other -/
def flat (acc : List (Nat × Nat)) : List PyVal := acc.flatMap (fun ab => [PyVal.int ab.1, PyVal.int ab.2])

/-- in the shape the two `append`s of the source leave -/
theorem flat_append (acc : List (Nat × Nat)) (a b : Nat) : flat (acc ++ [(a, b)]) = flat acc ++ [.int a] ++ [.int b] := by
  rw [List.append_assoc, flat, List.flatMap_append]
  rfl

/-- the state the loop carries: `[idx, indices, level]` -/
def tst (idx level : Nat) (acc : List (Nat × Nat)) : List V :=
  [.py (.int idx), .py (.list (flat acc)), .py (.int level)]

/-- the body of the loop of `get_tag_indices` -/
def tagBody (s t : Char) : V → List V → (List V → M) → (List V → M) → M := fun l1_pair s1 k1 _ =>
      (bindM (seqItemM (pure l1_pair) 0) fun l1_i =>
      (bindM (seqItemM (pure l1_pair) 1) fun l1_v =>
      (iteM (cmpEq (pure l1_v) (pure (V.py (.str [s]))))
      (bindM (addM (pure (stGet s1 2)) (cInt (1))) fun v_level =>
      (iteM (cmpEq (pure v_level) (cInt (1)))
      (bindM (pure l1_i) fun v_idx =>
      (k1 [v_idx, (stGet s1 1), v_level]))
      (k1 [(stGet s1 0), (stGet s1 1), v_level])))
      (iteM (cmpEq (pure l1_v) (pure (V.py (.str [t]))))
      (bindM (subM (pure (stGet s1 2)) (cInt (1))) fun v_level =>
      (iteM (cmpEq (pure v_level) (cInt (0)))
      (bindM (appendM (pure (stGet s1 1)) (pure (stGet s1 0))) fun v_indices =>
      (bindM (appendM (pure v_indices) (addM (pure l1_i) (cInt (1)))) fun v_indices =>
      (k1 [(stGet s1 0), v_indices, v_level])))
      (iteM (cmpLt (pure v_level) (cInt (0)))
      raiseM
      (k1 [(stGet s1 0), (stGet s1 1), v_level]))))
      (k1 [(stGet s1 0), (stGet s1 1), (stGet s1 2)])))))

/-- what follows the loop: the balance test -/
def tagDone : List V → M := fun r1 =>
      (iteM (cmpNe (pure (stGet r1 2)) (cInt (0)))
      raiseM
      (pure (stGet r1 1)))

/-- one character, in the words of `tagIdxAux` -/
theorem tagBody_step (s t c : Char) (i idx level : Nat) (acc : List (Nat × Nat)) (kc bc : List V → M) :
    tagBody s t (V.seq [.py (.int i), .py (.str [c])]) (tst idx level acc) kc bc =
      if c = s then kc (tst (if level = 0 then i else idx) (level + 1) acc)
      else if c = t then
        (match level with
         | 0 => raiseM
         | 1 => kc (tst idx 0 (acc ++ [(idx, i + 1)]))
         | n + 2 => kc (tst idx (n + 1) acc))
      else kc (tst idx level acc) := by
  -- evaluate; the last four names put the tests on `c` and on `level + 1` and the two `append`s in the model's words
  simp only [tagBody, tst, pure_ok, bindM_ok, seqItemM_zero, seqItemM_one, stGet_zero, stGet_succ, cInt_eq, cmpEq_char, addM_ok,
    subM_ok, cmpEq_int, cmpLt_int, appendM_list, ofBool_eq, iteM_ok, truth_bool, beq_iff_eq (a := c), natCast_add_one_beq_one,
    decide_eq_true_eq, flat_append]
  -- the same tests on both sides: compare branch by branch
  refine ite_congr rfl (fun _ => ?_) fun _ => ite_congr rfl (fun _ => ?_) fun _ => rfl
  · cases level <;> rfl
  · cases level with
    | zero => rfl
    | succ n =>
      cases n with
      | zero => rfl
      | succ m => simp only [natCast_succ_sub_one, natCast_succ_beq_zero, Int.not_ofNat_neg, Bool.false_eq_true, if_false]

/-- the whole loop: the state after the last character goes to the code after the loop, a closing delimiter with nothing
to close raises -/
theorem tag_loop (s t : Char) (cs : List Char) : ∀ (i idx level : Nat) (acc : List (Nat × Nat)),
    loopS (enumV i (cs.map charV)) (tagBody s t) (tst idx level acc) tagDone =
      (match tagIdxAux s t cs i idx level acc with
       | some ix => .ok (.py (.list (flat ix)))
       | Option.none => raiseM) := by
  induction cs with
  | nil =>
    intro i idx level acc
    cases level with
    | zero => rfl
    | succ n =>
      simp only [List.map_nil, enumV, loopS, tagDone, tst, pure_ok, stGet_zero, stGet_succ, cInt_eq, cmpNe_int, natCast_succ_beq_zero,
        ofBool_eq, iteM_ok, truth_bool]
      rfl
  | cons c tail ih =>
    intro i idx level acc
    rw [enumV_chars, loopS, tagBody_step, tagIdxAux_cons]
    by_cases hs : c = s
    · rw [if_pos hs, if_pos hs]
      exact ih _ _ _ _
    · rw [if_neg hs, if_neg hs]
      by_cases ht : c = t
      · rw [if_pos ht, if_pos ht]
        match level with
        | 0 => rfl
        | 1 => exact ih _ _ _ _
        | n + 2 => exact ih _ _ _ _
      · rw [if_neg ht, if_neg ht]
        exact ih _ _ _ _

/-- **`get_tag_indices` as written in the source is the model's `tagIndices`** (flat: start, end + 1 of every
top-level tagged segment; `InvalidPatternError` exactly when the model finds the delimiters unbalanced) -/
theorem gen_get_tag_indices (s t : Char) (e : List Char) :
    get_tag_indices (.py (.str e)) (.py (.str [s])) (.py (.str [t])) =
      (match tagIndices s t e with
       | some ix => .ok (.py (.list (flat ix)))
       | Option.none => raiseM) := by
  -- the generated body with the loop's body and what follows the loop folded into `tagBody` / `tagDone`; `show` checks it by unfolding
  show (bindM (cStr "Pattern %s has unbalanced braces") fun v_error_msg =>
      (bindM (cInt (0)) fun v_idx => (bindM (cInt (0)) fun v_level => (bindM cEmptyPyList fun v_indices =>
      (pyForS (enumerateM (pure (V.py (.str e)))) (tagBody s t) [v_idx, v_indices, v_level] tagDone))))) = _
  simp only [cStr_eq, cInt_eq, cEmptyPyList, bindM_ok, pure_ok, enumerateM_str, pyForS_seq]
  exact tag_loop s t e 0 0 0 []

theorem translatedParser_covers : translatedParser = ["get_tag_indices", "compile_regex"] := rfl

end Vakt.GenEquiv
