import Gen.GuardAudit
import Gen.EquivGuard
/-!
# The translated decision methods with their log records are the model's `isAllowedLogged`

`/repo/vakt/guard.py`: `check_policies_allow`, `is_allowed_check` and `is_allowed` once more, with every `audit_log.info(..., extra={effect,
candidates, deciders})` and the decision-log record of `is_allowed` made explicit as effects on a log value; so the C17 theorems are
statements about the logging calls as they stand in the source.
-/
namespace Vakt.GenEquiv
open Vakt PyVal Vakt.PyPrim Vakt.GenGuard Vakt.GenGuardAudit

def boolV (b : Bool) : V := .py (.bool b)

/-- what `check_policies_allow` returns on the log `.alog au dl` when the model answers `r` -/
def ares (au : List AuditRec) (dl : List Bool) (r : Bool × AuditRec) : M :=
  .ok (.seq [boolV r.1, .alog (au ++ [r.2]) dl])

/-- nothing was logged: the model's side then reads `au ++ []` -/
theorem alog_nil (b : V) (au : List AuditRec) (dl : List Bool) :
    (.ok (.seq [b, .alog au dl]) : M) = .ok (.seq [b, .alog (au ++ []) dl]) := by
  rw [List.append_nil]

theorem policiesOf_map (fs : List Policy) : policiesOf (.seq (fs.map V.policy)) = some fs := by
  show List.mapM _ (fs.map V.policy) = some fs
  induction fs with
  | nil => rfl
  | cons p rest ih => rw [List.map_cons, List.mapM_cons, ih]; rfl

/-- `audit_log.info(…, extra={effect, candidates, deciders}); return r` on lists of policy objects -/
theorem auditRetM_policies (allow : Bool) (cs ds : List Policy) (r : V) (au : List AuditRec) (dl : List Bool) :
    auditRetM allow (.ok (.seq (cs.map V.policy))) (.ok (.seq (ds.map V.policy))) (.ok r) (.ok (.alog au dl)) =
      .ok (.seq [r, .alog (au ++ [⟨allow, cs, ds⟩]) dl]) := by
  simp only [auditRetM, bindM_ok, policiesOf_map]

theorem decisionLogM_alog (b : V) (au : List AuditRec) (dl : List Bool) (k : V → M) :
    decisionLogM (.ok b) (.ok (.alog au dl)) k = k (.alog au (dl ++ [truth b])) := rfl

/-- **`check_policies_allow` with its audit record is the model's `decideAns`** (both components), over a list and over an
iterable that fails before yielding item `n` -/
theorem check_policies_allow_audit_found (k : CheckerKind) (q : Inquiry) (ps : List Policy) (fa : Option Nat)
    (au : List AuditRec) (dl : List Bool) :
    check_policies_allow_GuardA (.checker k) (.inq (some q)) (foundV ps fa) (.alog au dl) =
      (match decideAns (guardMatch k q) (.items ps fa) with
       | .error e => .error e
       | .ok r => ares au dl r) :=
  check_policies_eval (guardMatch k q) (matchCond k q) (gen_match k q) ps fa
    (fun v => auditRetM false (pure v) cEmptyList cFalse (pure (.alog au dl)))
    (fun v => auditRetM true (pure v) (pure v) cTrue (pure (.alog au dl)))
    (fun v p => auditRetM false (pure v) (seqOfM [pure p]) cFalse (pure (.alog au dl)))
    (ares au dl)
    (auditRetM_policies false [] [] _ au dl) (fun fs p => auditRetM_policies false fs [p] _ au dl)
    (fun fs => auditRetM_policies true fs fs _ au dl)

/-- **`check_policies_allow` with its audit record is the model's `decideCore`** (both components) -/
theorem gen_check_policies_allow_audit (k : CheckerKind) (q : Inquiry) (ps : List Policy) (au : List AuditRec) (dl : List Bool) :
    check_policies_allow_GuardA (.checker k) (.inq (some q)) (.seq (ps.map V.policy)) (.alog au dl) =
      (match decideCore (guardMatch k q) ps with
       | .error e => .error e
       | .ok r => ares au dl r) :=
  check_policies_allow_audit_found k q ps Option.none au dl

theorem gen_check_policies_allow_audit_lazy (k : CheckerKind) (q : Inquiry) (ps : List Policy) (n : Nat)
    (au : List AuditRec) (dl : List Bool) :
    check_policies_allow_GuardA (.checker k) (.inq (some q)) (.lazySeq (ps.map V.policy) n) (.alog au dl) =
      (match decideAns (guardMatch k q) (.items ps (some n)) with
       | .error e => .error e
       | .ok r => ares au dl r) :=
  check_policies_allow_audit_found k q ps (some n) au dl

/-- **`is_allowed_check` with its audit records** -/
theorem gen_is_allowed_check_audit (k : CheckerKind) (q : Inquiry) (ans : StoreAns) (au : List AuditRec) (dl : List Bool) :
    is_allowed_check_GuardA (.checker k) (.storage ans) (.inq (some q)) (.alog au dl) =
      .ok (.seq [boolV (isAllowed (guardMatch k q) ans), .alog (au ++ auditOf (guardMatch k q) ans) dl]) := by
  cases ans with
  | raises => exact alog_nil _ au dl
  | nothing => exact alog_nil _ au dl
  | items ps fa =>
    unfold is_allowed_check_GuardA isAllowed auditOf
    simp only [pure_ok, methFind_items, bindM_ok, isNoneM_foundV, iteM_ok, truth_bool, Bool.false_eq_true, ↓reduceIte,
      check_policies_allow_audit_found]
    cases decideAns (guardMatch k q) (.items ps fa) with
    | error e => exact alog_nil _ au dl
    | ok r => rfl

/-- **`is_allowed` as written in the source, with everything it logs, is the model's `isAllowedLogged`** -/
theorem gen_is_allowed_logged (k : CheckerKind) (q : Inquiry) (ans : StoreAns) (au : List AuditRec) (dl : List Bool) :
    is_allowed_GuardA (.checker k) (.storage ans) (.inq (some q)) (.alog au dl) =
      .ok (.seq [boolV (isAllowedLogged (guardMatch k q) ans).1,
                 .alog (au ++ (isAllowedLogged (guardMatch k q) ans).2.2)
                       (dl ++ (isAllowedLogged (guardMatch k q) ans).2.1.map (·.allowed))]) := by
  unfold is_allowed_GuardA isAllowedLogged
  simp only [pure_ok, bindM_ok, gen_is_allowed_check_audit, callProcM_pair, boolV, iteM_ok, truth_bool, cTrue_eq, cFalse_eq,
    decisionLogM_alog, pairM_ok]
  cases isAllowed (guardMatch k q) ans <;> rfl

theorem translatedGuardAudit_covers :
    translatedGuardAudit = ["check_policies_allow", "is_allowed_check", "is_allowed"] := rfl

end Vakt.GenEquiv
