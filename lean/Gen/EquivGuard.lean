import Gen.Guard
import Gen.Lemmas
/-!
# The translated decision procedure of `Guard` is the model's

`/repo/vakt/guard.py`.  The context loop of `check_context_restriction` is `ctxOk`; in `check_policies_allow` the four-way `and` inside the
comprehension is `guardMatch`, and filtering, the empty case, the veto loop and the final allow are `decideCore`; `is_allowed_check` -
the storage call, the `None` guard, the catch-all handler - is `isAllowed`; so `Props/C01.lean`, `C02.lean` speak about the source.
-/
namespace Vakt.GenEquiv
open Vakt PyVal Vakt.PyPrim Vakt.GenGuard

theorem contextItemsM_policy (p : Policy) : contextItemsM (.ok (.policy p)) = .ok (.seq (p.context.map pairV)) := rfl

theorem trySubscriptM_str (c : PyVal) (k : List Char) (onKeyError : M) (rest : V → M) :
    trySubscriptM (.ok (.py c)) (.ok (.py (.str k))) onKeyError rest =
      (match c with
       | .dict d => (match lookup k d with | some v => rest (.py v) | Option.none => onKeyError)
       | _ => raiseM) := by
  cases c <;> rfl

theorem gen_check_context_restriction (p : Policy) (q : Inquiry) :
    toR (check_context_restriction_Guard (.policy p) (.inq (some q))) = ctxOk p q := by
  unfold check_context_restriction_Guard ctxOk
  rw [pure_ok, contextItemsM_policy, pyFor_seq]
  refine loopM_toR pairV _ _ _ rfl (fun kv rest k ih => ?_) p.context
  -- one iteration: the key is looked up in the inquiry's context, the rule evaluated on the value found
  simp only [pairV, pure_ok, seqItemM_zero, seqItemM_one, bindM_ok, attrM_context, trySubscriptM_str, methSatisfied_attrVal,
    ctxLoop]
  cases q.context with
  | dict d =>
    dsimp only
    cases lookup kv.1 d with
    | none => rfl
    | some v =>
      dsimp only
      cases kv.2 with
      | junk => rfl
      | rule r =>
        dsimp only
        cases r.eval v (some q) with
        | error e => rfl
        | ok b =>
          cases b
          · rfl
          · exact ih
  | _ => rfl

theorem methFits_field (k : CheckerKind) (p : Policy) (q : Inquiry) (name : String) (fld : Field) (w : PyVal)
    (hf : fieldOfName name.toList = some fld) :
    methFits (.ok (.checker k)) (.ok (.policy p)) (cStr name) (.ok (.py w)) (.ok (.inq (some q))) = liftR (fits k p fld w q) := by
  show (match fieldOfName name.toList with | some fld => liftR (fits k p fld w q) | Option.none => raiseM) = _
  rw [hf]

/-- the condition of the comprehension for one policy -/
def matchCond (k : CheckerKind) (q : Inquiry) : V → M := fun c1_p =>
  (pyAnd (methFits (pure (V.checker k)) (pure c1_p) (cStr "actions") (attrM (pure (V.inq (some q))) "action") (pure (V.inq (some q)))) (fun _ => (pyAnd (methFits (pure (V.checker k)) (pure c1_p) (cStr "subjects") (attrM (pure (V.inq (some q))) "subject") (pure (V.inq (some q)))) (fun _ => (pyAnd (methFits (pure (V.checker k)) (pure c1_p) (cStr "resources") (attrM (pure (V.inq (some q))) "resource") (pure (V.inq (some q)))) (fun _ => (bindM (pure c1_p) fun a2 => (bindM (pure (V.inq (some q))) fun a3 => (check_context_restriction_Guard a2 a3)))))))))

/-- **the condition is the model's `guardMatch`**.  It shares its full name with the family theorem of `Gen/Equiv.lean`: the two
modules cannot be imported together. -/
theorem gen_match (k : CheckerKind) (q : Inquiry) (p : Policy) :
    toR (matchCond k q (.policy p)) = guardMatch k q p := by
  simp only [matchCond, pure_ok, attrM_action, attrM_subject, attrM_resource,
    methFits_field k p q "actions" .actions _ rfl, methFits_field k p q "subjects" .subjects _ rfl,
    methFits_field k p q "resources" .resources _ rfl, toR_pyAnd_liftR, bindM_ok, gen_check_context_restriction,
    guardMatch, matchP]

theorem filterLoop_eq (m : Policy → R) (cond : V → M) (h : ∀ p, toR (cond (.policy p)) = m p) (ps : List Policy) :
    filterLoop (ps.map V.policy) cond = (filterM m ps).map (fun fs => fs.map V.policy) := by
  induction ps with
  | nil => rfl
  | cons p rest ih =>
    rw [List.map_cons, filterLoop, filterM, ih, ← h p]
    cases cond (.policy p) with
    | error e => rfl
    | ok v =>
      cases filterM m rest with
      | error e => rfl
      | ok fs => cases hv : truth v <;> simp only [toR_ok, hv] <;> rfl

/-- what `find_for_inquiry` returned for the answer `.items ps fa`: the policies as a list, or as an iterable that fails
before yielding item `n` -/
def foundV (ps : List Policy) : Option Nat → V
  | Option.none => .seq (ps.map V.policy)
  | some n => .lazySeq (ps.map V.policy) n

theorem filterCompM_lazy (xs : List V) (n : Nat) (f : V → M) :
    filterCompM (.ok (.lazySeq xs n)) f =
      if n ≤ xs.length then (match filterLoop (xs.take n) f with | .error e => .error e | .ok _ => raiseM)
      else (filterLoop xs f).map V.seq := rfl
theorem methAllowAccess_policy (p : Policy) : methAllowAccess (.ok (.policy p)) = ofBool p.allowAccess := rfl

/-- the veto loop, whatever is returned on a veto (`deny`) and after the loop (`allow`) -/
theorem veto_loop (deny : V → M) (allow : M) (fs : List Policy) :
    loopM (fs.map V.policy) (fun l4_p k4 => iteM (pyNot (methAllowAccess (pure l4_p))) (deny l4_p) k4) allow =
      (match fs.find? (fun p => !p.allowAccess) with
       | some p => deny (.policy p)
       | Option.none => allow) := by
  induction fs with
  | nil => rfl
  | cons p rest ih =>
    simp only [List.map_cons, loopM, pure_ok, methAllowAccess_policy, ofBool_eq, pyNot_ok, iteM_ok, truth_bool, List.find?_cons]
    cases p.allowAccess
    · rfl
    · exact ih

/-- the comprehension over what the storage handed over, then `rest`: if `rest` on a filtered list is `out` of the model's
`decideFiltered`, the whole is `out` of `decideAns` -/
theorem filterComp_eval (m : Policy → R) (cond : V → M) (h : ∀ p, toR (cond (.policy p)) = m p)
    (ps : List Policy) (fa : Option Nat) (rest : V → M) (out : Bool × AuditRec → M)
    (hrest : ∀ fs, rest (.seq (fs.map V.policy)) = out (decideFiltered fs)) :
    bindM (filterCompM (pure (foundV ps fa)) cond) rest =
      (match decideAns m (.items ps fa) with
       | .error e => .error e
       | .ok r => out r) := by
  have core : bindM ((filterLoop (ps.map V.policy) cond).map V.seq) rest =
      (match decideCore m ps with | .error e => .error e | .ok r => out r) := by
    rw [filterLoop_eq m cond h, decideCore]
    cases filterM m ps with
    | error e => rfl
    | ok fs => exact hrest fs
  cases fa with
  | none =>
    rw [pure_ok, foundV, filterCompM_seq, decideAns]
    exact core
  | some n =>
    rw [pure_ok, foundV, filterCompM_lazy, List.length_map, decideAns]
    by_cases hn : n ≤ ps.length
    · rw [if_pos hn, if_pos hn, ← List.map_take, filterLoop_eq m cond h]
      cases filterM m (ps.take n) <;> rfl
    · rw [if_neg hn, if_neg hn]
      exact core

/-- **`check_policies_allow`, whatever it returns at its three exits** (`empty`: nothing matched; `deny`: a candidate vetoes;
`allow`: none does): if the three are `out` of the model's three outcomes, the method is `out` of `decideAns` -/
theorem check_policies_eval (m : Policy → R) (cond : V → M) (h : ∀ p, toR (cond (.policy p)) = m p)
    (ps : List Policy) (fa : Option Nat) (empty allow : V → M) (deny : V → V → M) (out : Bool × AuditRec → M)
    (hempty : empty (.seq []) = out (false, ⟨false, [], []⟩))
    (hdeny : ∀ fs p, deny (.seq (fs.map V.policy)) (.policy p) = out (false, ⟨false, fs, [p]⟩))
    (hallow : ∀ fs, allow (.seq (fs.map V.policy)) = out (true, ⟨true, fs, fs⟩)) :
    (bindM (filterCompM (pure (foundV ps fa)) cond) fun v_filtered =>
      (iteM (cmpEq (callLen (pure v_filtered)) (cInt (0)))
      (empty v_filtered)
      (pyFor (pure v_filtered) (fun l4_p k4 =>
      (iteM (pyNot (methAllowAccess (pure l4_p)))
      (deny v_filtered l4_p)
      k4))
      (allow v_filtered)))) =
      (match decideAns m (.items ps fa) with
       | .error e => .error e
       | .ok r => out r) :=
  filterComp_eval m cond h ps fa _ out fun fs => by
    rw [pure_ok, callLen_seq, cInt_eq, cInt_eq, cmpEq_int, length_beq_zero, ofBool_eq, iteM_ok, truth_bool, pyFor_seq, veto_loop,
      decideFiltered]
    cases fs with
    | nil => exact hempty
    | cons p rest =>
      cases (p :: rest).find? (fun p => !p.allowAccess) with
      | none => exact hallow _
      | some x => exact hdeny _ x

theorem check_policies_allow_found (k : CheckerKind) (q : Inquiry) (ps : List Policy) (fa : Option Nat) :
    check_policies_allow_Guard (.checker k) (.inq (some q)) (foundV ps fa) =
      (match decideAns (guardMatch k q) (.items ps fa) with
       | .error e => .error e
       | .ok r => ofBool r.1) :=
  check_policies_eval (guardMatch k q) (matchCond k q) (gen_match k q) ps fa (fun _ => cFalse) (fun _ => cTrue)
    (fun _ _ => cFalse) (fun r => ofBool r.1) rfl (fun _ _ => rfl) (fun _ => rfl)

theorem toR_answer (x : Except PyErr (Bool × AuditRec)) :
    toR (match x with | .error e => .error e | .ok r => ofBool r.1) = x.map (·.1) := by
  cases x <;> rfl

/-- **`check_policies_allow` as written in the source is the model's `decideCore`** (answer component) -/
theorem gen_check_policies_allow (k : CheckerKind) (q : Inquiry) (ps : List Policy) :
    toR (check_policies_allow_Guard (.checker k) (.inq (some q)) (.seq (ps.map V.policy))) =
      (decideCore (guardMatch k q) ps).map (·.1) :=
  (congrArg toR (check_policies_allow_found k q ps Option.none)).trans (toR_answer _)

/-- over an iterable that fails before yielding item `n` -/
theorem gen_check_policies_allow_lazy (k : CheckerKind) (q : Inquiry) (ps : List Policy) (n : Nat) :
    toR (check_policies_allow_Guard (.checker k) (.inq (some q)) (.lazySeq (ps.map V.policy) n)) =
      (decideAns (guardMatch k q) (.items ps (some n))).map (·.1) :=
  (congrArg toR (check_policies_allow_found k q ps (some n))).trans (toR_answer _)

theorem methFind_items (ps : List Policy) (fa : Option Nat) (q c : V) :
    methFind (.ok (.storage (.items ps fa))) (.ok q) (.ok c) = .ok (foundV ps fa) := by
  cases fa <;> rfl

theorem isNoneM_foundV (ps : List Policy) (fa : Option Nat) : isNoneM (.ok (foundV ps fa)) = .ok (.py (.bool false)) := by
  cases fa <;> rfl

/-- **`is_allowed_check` as written in the source — storage call, `None` guard, evaluation, catch-all handler — is the
model's `isAllowed`**: for every checker kind, inquiry and storage answer (raises / `None` / policies / an iterable that
fails part-way) -/
theorem gen_is_allowed_check (k : CheckerKind) (q : Inquiry) (ans : StoreAns) :
    toR (is_allowed_check_Guard (.checker k) (.storage ans) (.inq (some q))) = .ok (isAllowed (guardMatch k q) ans) := by
  cases ans with
  | raises => rfl
  | nothing => rfl
  | items ps fa =>
    unfold is_allowed_check_Guard isAllowed
    simp only [pure_ok, methFind_items, bindM_ok, isNoneM_foundV, iteM_ok, truth_bool, Bool.false_eq_true, ↓reduceIte,
      check_policies_allow_found]
    cases decideAns (guardMatch k q) (.items ps fa) <;> rfl

/-- what was translated in this run is what the theorems above cover (see `translated_covers` in `Equiv.lean`) -/
theorem translatedGuard_covers :
    translatedGuard = ["check_context_restriction", "check_policies_allow", "is_allowed_check"] := rfl

end Vakt.GenEquiv
