import Gen.AuditMsg
import Gen.Lemmas
/-!
# The translated `__str__` methods of the audit message classes are the model's `renderMsg`

`/repo/vakt/audit.py`.  For every list of policies the text a message object renders to - nothing, the uids, the quoted descriptions, the
count - is the model's `renderMsg` (the last clause of C17).
-/
namespace Vakt.GenEquiv
open Vakt PyVal Vakt.PyPrim Vakt.GenAuditMsg

theorem strOf_str (s : List Char) : strOf (.str s) = s := rfl

/-- `sep.join(xs)` for a list of strings -/
theorem joinM_strs {α : Type} (sep : String) (t : α → List Char) (xs : List α) :
    joinM (cStr sep) (.ok (.seq (xs.map fun x => V.py (.str (t x))))) = .ok (.py (.str (intercalate sep.toList (xs.map t)))) := by
  have h : strsOf (xs.map fun x => V.py (.str (t x))) = some (xs.map t) := by
    induction xs with
    | nil => rfl
    | cons x rest ih => simp only [List.map_cons, strsOf, ih, Option.map_some]
  show (match strsOf (xs.map fun x => V.py (.str (t x))) with
    | some ss => Except.ok (V.py (.str (intercalate sep.toList ss))) | Option.none => raiseM) = _
  rw [h]

/-- `'[%s]' % ', '.join(map(g, map(a, policies)))`: the shape of the two listing messages, for an attribute getter `a` and
a way `g` of writing one value -/
theorem str_listing (a g : V → M) (attr : Policy → PyVal) (text : PyVal → List Char)
    (ha : ∀ p, a (.policy p) = .ok (.py (attr p))) (hg : ∀ v, g (.py v) = .ok (.py (.str (text v)))) (ps : List Policy) :
    (bindM (listCompM (.ok (.seq (ps.map V.policy))) a) fun vs =>
      fmt1M "[" "]" 's' (joinM (cStr ", ") (listCompM (.ok vs) g))) =
      .ok (.py (.str ("[".toList ++ intercalate ", ".toList (ps.map fun p => text (attr p)) ++ "]".toList))) := by
  rw [listCompM_map a V.policy (fun p => .py (attr p)) ps fun p _ => ha p, bindM_ok,
    listCompM_map g (fun p => .py (attr p)) (fun p => .py (.str (text (attr p)))) ps fun p _ => hg (attr p), joinM_strs]
  rfl

theorem gen_str_nop : str_PoliciesNopMsg = .ok (.py (.str (renderMsg .nop []))) := by
  unfold str_PoliciesNopMsg cStr
  rw [String.toList_empty]
  rfl

theorem gen_str_uid (ps : List Policy) :
    str_PoliciesUidMsg (.seq (ps.map V.policy)) = .ok (.py (.str (renderMsg .uid ps))) :=
  str_listing _ _ Policy.uid strOf (fun _ => rfl) (fun _ => rfl) ps

theorem gen_str_desc (ps : List Policy) :
    str_PoliciesDescriptionMsg (.seq (ps.map V.policy)) = .ok (.py (.str (renderMsg .desc ps))) :=
  str_listing _ _ Policy.description (fun v => "'".toList ++ strOf v ++ "'".toList) (fun _ => rfl) (fun _ => rfl) ps

/-- `'<pre>%d<post>' % n` for a natural number -/
theorem fmt1M_nat (pre post : String) (n : Nat) :
    fmt1M pre post 'd' (.ok (.py (.int n))) = .ok (.py (.str (pre.toList ++ natDigits n ++ post.toList))) := by
  show (if (0 : Int) ≤ n then Except.ok (V.py (.str (pre.toList ++ natDigits (n : Int).toNat ++ post.toList))) else raiseM) = _
  rw [if_pos (Int.natCast_nonneg n), Int.toNat_natCast]

theorem gen_str_count (ps : List Policy) :
    str_PoliciesCountMsg (.seq (ps.map V.policy)) = .ok (.py (.str (renderMsg .count ps))) := by
  rw [str_PoliciesCountMsg, pure_ok, callLen_seq, cInt_eq, List.length_map, fmt1M_nat, String.toList_empty, List.append_nil]
  rfl

theorem translatedAuditMsgs_covers :
    translatedAuditMsgs = ["PoliciesNopMsg", "PoliciesUidMsg", "PoliciesDescriptionMsg", "PoliciesCountMsg"] := rfl

end Vakt.GenEquiv
