import Gen.Allowance
import Gen.Lemmas
/-!
# The translated `AllowanceCache`: `__init__` wraps `is_allowed_check` and nothing else, `update` invalidates the cache behind it

`/repo/vakt/cache.py`.  For every guard that has an `is_allowed_check` and any other attributes, `__init__` changes exactly that attribute: it is
now the old one behind the back-end's cache (the one passed in, or a new `LRUCache` of capacity `maxsize`); `is_allowed`, which writes the
decision log (C17), is what it was.
-/
namespace Vakt.GenEquiv
open Vakt PyVal Vakt.PyPrim Vakt.GenAllowance

/-- the guard as `AllowanceCache.__init__` leaves it -/
def guardAfter (gfs : List (String × V)) (backend chk : V) : V :=
  .obj (objSet "is_allowed_check" (.seq [wrappedTag, backend, chk]) gfs)

/-- the cache object as it leaves -/
def cacheObjAfter (sfs : List (String × V)) (kw backend : V) : V :=
  .obj (objSet "cache" backend (objSet "options" kw sfs))

/-- **`AllowanceCache.__init__` as written in the source**, whichever back-end it is given or makes: the one it stores is the one
`is_allowed_check` is wrapped with -/
theorem gen_allowance_init (sfs gfs : List (String × V)) (b chk kw : V) (hchk : objGet "is_allowed_check" gfs = some chk) :
    init_AllowanceCache (.obj sfs) (.obj gfs) b kw =
      bindM (iteM (isNoneM (.ok b)) (lruNewM (subscriptM (.ok kw) (cStr "maxsize"))) (.ok b)) fun backend =>
        .ok (.seq [cacheObjAfter sfs kw backend, guardAfter gfs backend chk]) := by
  simp only [init_AllowanceCache, pure_ok, objSetS_obj, bindM_ok, objAttrM_obj (objGet_objSet_self _ _ _), objAttrM_obj hchk]
  -- from here both branches do the same with the back-end they have
  obtain ⟨isNone, h⟩ : ∃ t, isNoneM (.ok b) = ofBool t := ⟨_, rfl⟩
  rw [h]
  cases isNone <;> rfl

/-- **… a back-end passed in** -/
theorem gen_allowance_init_backend (sfs gfs : List (String × V)) (b chk kw : V)
    (hb : isNoneM (.ok b) = ofBool false) (hchk : objGet "is_allowed_check" gfs = some chk) :
    init_AllowanceCache (.obj sfs) (.obj gfs) b kw = .ok (.seq [cacheObjAfter sfs kw b, guardAfter gfs b chk]) := by
  rw [gen_allowance_init sfs gfs b chk kw hchk, hb]
  rfl

/-- **… no back-end passed in: a new `LRUCache` of the capacity `maxsize`** -/
theorem gen_allowance_init_default (sfs gfs : List (String × V)) (chk : V) (kvs : List (List Char × PyVal)) (m : PyVal)
    (hm : lookup "maxsize".toList kvs = some m) (hchk : objGet "is_allowed_check" gfs = some chk) :
    init_AllowanceCache (.obj sfs) (.obj gfs) (.py .none) (.py (.dict kvs)) =
      .ok (.seq [cacheObjAfter sfs (.py (.dict kvs)) (.seq [lruTag, .py m]), guardAfter gfs (.seq [lruTag, .py m]) chk]) := by
  rw [gen_allowance_init sfs gfs _ chk _ hchk]
  show bindM (lruNewM (subscriptM (.ok (V.py (.dict kvs))) (cStr "maxsize"))) _ = _
  rw [cStr_eq, subscriptM_dict, hm]
  rfl

/-- every attribute of the guard other than `is_allowed_check` - `is_allowed` among them - is what it was -/
theorem guard_other_attributes_kept (gfs : List (String × V)) (b chk : V) (name : String) (hne : name ≠ "is_allowed_check") :
    (match guardAfter gfs b chk with | .obj fs => objGet name fs | _ => Option.none) = objGet name gfs :=
  objGet_objSet_ne (Ne.symm hne) _ gfs

theorem guard_is_allowed_kept (gfs : List (String × V)) (b chk : V) :
    (match guardAfter gfs b chk with | .obj fs => objGet "is_allowed" fs | _ => Option.none) = objGet "is_allowed" gfs :=
  guard_other_attributes_kept gfs b chk "is_allowed" (by decide)

theorem guard_check_wrapped (gfs : List (String × V)) (b chk : V) :
    (match guardAfter gfs b chk with | .obj fs => objGet "is_allowed_check" fs | _ => Option.none) = some (.seq [wrappedTag, b, chk]) :=
  objGet_objSet_self _ _ gfs

/-- **`AllowanceCache.update` as written in the source**: one `invalidate()` on the back-end stored by `__init__`, nothing else -/
theorem gen_allowance_update (sfs : List (String × V)) (backend : V) (calls : List V) (hc : objGet "cache" sfs = some backend) :
    update_AllowanceCache (.obj sfs) (.seq calls) =
      .ok (.seq [.py .none, .seq (calls ++ [.seq [.py (.str "invalidate".toList), backend]])]) := by
  rw [update_AllowanceCache, pure_ok, objAttrM_obj hc]
  rfl

/-- `__init__` followed by `update`: the back-end that is invalidated is the one `is_allowed_check` was wrapped with -/
theorem init_then_update (sfs gfs : List (String × V)) (b chk kw : V) (calls : List V)
    (hb : isNoneM (.ok b) = ofBool false) (hchk : objGet "is_allowed_check" gfs = some chk) :
    init_AllowanceCache (.obj sfs) (.obj gfs) b kw = .ok (.seq [cacheObjAfter sfs kw b, guardAfter gfs b chk]) ∧
    update_AllowanceCache (cacheObjAfter sfs kw b) (.seq calls) =
      .ok (.seq [.py .none, .seq (calls ++ [.seq [.py (.str "invalidate".toList), b]])]) :=
  ⟨gen_allowance_init_backend sfs gfs b chk kw hb hchk,
   gen_allowance_update _ b calls (objGet_objSet_self "cache" b _)⟩

theorem translatedAllowance_covers : translatedAllowance = ["AllowanceCache.__init__", "AllowanceCache.update"] := rfl

end Vakt.GenEquiv
