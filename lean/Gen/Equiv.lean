import Gen.Rules
import Gen.Lemmas
/-!
# The translated rule bodies are the model's rules

For every rule of `/repo/vakt/rules/*.py` the translated `satisfied` (`Gen/Rules.lean`), observed through truthiness (`toR`), is
`Rule.eval` of the model for that rule, for every argument, offered value and inquiry; so the theorems of `Props/C05.lean` about
`Rule.eval` are theorems about the rule bodies as they are written in the source.
-/
namespace Vakt.GenEquiv
open Vakt PyVal Vakt.PyPrim Vakt.GenRules

/-! ### comparison rules -/

/-! `Rule.eval` ignores the inquiry for these rules, as for most below: the translated body is given any value `q` in its place, and the
`Option.none` in the statement stands for any inquiry. -/

/-- `Eq` / `NotEq` turn a tuple argument into a list before comparing -/
theorem gen_Eq (v w : PyVal) (q : V) : toR (sat_Eq (.py v) (.py w) q) = Rule.eval (.eq v) w Option.none := by
  cases v <;> rfl

theorem gen_NotEq (v w : PyVal) (q : V) : toR (sat_NotEq (.py v) (.py w) q) = Rule.eval (.notEq v) w Option.none := by
  cases v <;> rfl

theorem gen_Greater (v w : PyVal) (q : V) : toR (sat_Greater (.py v) (.py w) q) = Rule.eval (.greater v) w Option.none :=
  toR_cmp2 pyGt w v

theorem gen_Less (v w : PyVal) (q : V) : toR (sat_Less (.py v) (.py w) q) = Rule.eval (.less v) w Option.none :=
  toR_cmp2 pyLt w v

theorem gen_GreaterOrEqual (v w : PyVal) (q : V) :
    toR (sat_GreaterOrEqual (.py v) (.py w) q) = Rule.eval (.greaterOrEqual v) w Option.none :=
  toR_cmp2 pyGe w v

theorem gen_LessOrEqual (v w : PyVal) (q : V) :
    toR (sat_LessOrEqual (.py v) (.py w) q) = Rule.eval (.lessOrEqual v) w Option.none :=
  toR_cmp2 pyLe w v

/-! ### membership rules (`self.data` is the set built from the constructor's arguments) -/

theorem gen_In (d : List PyVal) (w : PyVal) (q : V) : toR (sat_In (.set d) (.py w) q) = Rule.eval (.isIn d) w Option.none :=
  toR_liftR (memSet w d)

theorem gen_NotIn (d : List PyVal) (w : PyVal) (q : V) :
    toR (sat_NotIn (.set d) (.py w) q) = Rule.eval (.notIn d) w Option.none :=
  toR_pyNot_liftR (memSet w d)

/-- the four list rules raise (`TypeError`) on a value that is not a list -/
theorem not_list (w : PyVal) (h : isList w = false) (d : List PyVal) :
    Rule.eval (.allIn d) w Option.none = .error .raised ∧ Rule.eval (.allNotIn d) w Option.none = .error .raised ∧
    Rule.eval (.anyIn d) w Option.none = .error .raised ∧ Rule.eval (.anyNotIn d) w Option.none = .error .raised := by
  cases w with
  | list xs => cases h
  | _ => exact ⟨rfl, rfl, rfl, rfl⟩

/-- the four rules that start with `if not isinstance(what, list): raise TypeError` and go on from `set(what)`: `k` is what
follows, `f` what it computes from the set -/
theorem list_rule (w : PyVal) (k : M → M) (f : List PyVal → Bool) (hk : ∀ s, toR (k (.ok (.set s))) = .ok (f s))
    (he : ∀ e, k (.error e) = .error e) :
    toR (iteM (pyNot (isinstanceM (.ok (.py w)) "list")) raiseM (k (callSet (.ok (.py w))))) =
      match w with | .list xs => (toSet xs).map f | _ => .error .raised := by
  rw [isinstanceM_list]
  cases w with
  | list xs =>
    change toR (k ((toSet xs).map V.set)) = (toSet xs).map f
    cases toSet xs with
    | error e => exact congrArg toR (he e)
    | ok s => exact hk s
  | _ => rfl

theorem gen_AllIn (d : List PyVal) (w : PyVal) (q : V) :
    toR (sat_AllIn (.set d) (.py w) q) = Rule.eval (.allIn d) w Option.none :=
  list_rule w (fun s => methIssubset s (.ok (.set d))) _ (fun _ => rfl) (fun _ => rfl)

theorem gen_AllNotIn (d : List PyVal) (w : PyVal) (q : V) :
    toR (sat_AllNotIn (.set d) (.py w) q) = Rule.eval (.allNotIn d) w Option.none :=
  list_rule w (fun s => pyNot (methIssubset s (.ok (.set d)))) _ (fun _ => rfl) (fun _ => rfl)

theorem filter_nonempty {α : Type} (s : List α) (p : α → Bool) : (!(s.filter p).isEmpty) = s.any p := by
  induction s with
  | nil => rfl
  | cons a rest ih =>
    rw [List.filter_cons, List.any_cons, ← ih]
    cases p a <;> rfl

theorem gen_AnyIn (d : List PyVal) (w : PyVal) (q : V) :
    toR (sat_AnyIn (.set d) (.py w) q) = Rule.eval (.anyIn d) w Option.none :=
  list_rule w (fun s => callBool (methIntersection (.ok (.set d)) s)) _ (fun s => congrArg Except.ok (filter_nonempty s _))
    (fun _ => rfl)

theorem gen_AnyNotIn (d : List PyVal) (w : PyVal) (q : V) :
    toR (sat_AnyNotIn (.set d) (.py w) q) = Rule.eval (.anyNotIn d) w Option.none :=
  list_rule w (fun s => callBool (methDifference s (.ok (.set d)))) _ (fun s => congrArg Except.ok (filter_nonempty s _))
    (fun _ => rfl)

/-! ### boolean rules -/

theorem gen_Truthy (w : PyVal) (q : V) : toR (sat_Truthy (.py w) q) = Rule.eval .truthy w Option.none := by
  change Except.ok (pyEq (.bool (truthy w)) (.bool true)) = Except.ok (truthy w)
  cases truthy w <;> rfl

theorem gen_Falsy (w : PyVal) (q : V) : toR (sat_Falsy (.py w) q) = Rule.eval .falsy w Option.none := by
  change Except.ok (pyEq (.bool (truthy w)) (.bool false)) = Except.ok (!truthy w)
  cases truthy w <;> rfl

theorem gen_Any (w q : V) : toR (sat_Any w q) = Rule.eval .any .none Option.none := rfl
theorem gen_Neither (w q : V) : toR (sat_Neither w q) = Rule.eval .neither .none Option.none := rfl

/-! ### string rules (`ci` is the case-insensitivity flag, `val` the string given to the constructor) -/

/-- the four rules of the shape `if isinstance(what, str): return op(what.lower(), val.lower()) if ci else op(what, val)`,
`return False` otherwise: `op` is the comparison, `f` what it computes on two strings -/
theorem str_rule (op : M → M → M) (f : List Char → List Char → Bool)
    (hop : ∀ s t, op (.ok (.py (.str s))) (.ok (.py (.str t))) = ofBool (f s t)) (v : List Char) (ci : Bool) (w : PyVal) :
    toR (iteM (isinstanceM (.ok (.py w)) "str")
      (iteM (.ok (.py (.bool ci))) (op (methLower (.ok (.py w))) (methLower (.ok (.py (.str v)))))
        (op (.ok (.py w)) (.ok (.py (.str v)))))
      cFalse) = match w with | .str s => .ok (f (Rule.fold ci s) (Rule.fold ci v)) | _ => .ok false := by
  rw [isinstanceM_str]
  cases w with
  | str s => cases ci <;> exact congrArg toR (hop _ _)
  | _ => rfl

theorem gen_Equal (v : List Char) (ci : Bool) (w : PyVal) (q : V) :
    toR (sat_Equal (.py (.bool ci)) (.py (.str v)) (.py w) q) = Rule.eval (.strEqual v ci) w Option.none :=
  str_rule cmpEq (· == ·) (fun _ _ => rfl) v ci w

theorem gen_StartsWith (v : List Char) (ci : Bool) (w : PyVal) (q : V) :
    toR (sat_StartsWith (.py (.bool ci)) (.py (.str v)) (.py w) q) = Rule.eval (.startsWith v ci) w Option.none :=
  str_rule methStartswith _ (fun _ _ => rfl) v ci w

theorem gen_EndsWith (v : List Char) (ci : Bool) (w : PyVal) (q : V) :
    toR (sat_EndsWith (.py (.bool ci)) (.py (.str v)) (.py w) q) = Rule.eval (.endsWith v ci) w Option.none :=
  str_rule methEndswith _ (fun _ _ => rfl) v ci w

theorem gen_Contains (v : List Char) (ci : Bool) (w : PyVal) (q : V) :
    toR (sat_Contains (.py (.bool ci)) (.py (.str v)) (.py w) q) = Rule.eval (.contains v ci) w Option.none :=
  str_rule (fun a b => cmpIn b a) (fun s t => isInfix t s) (fun _ _ => rfl) v ci w

/-! ### composition rules (`self.rules` is the tuple of rule objects, `self.rule` the negated rule) -/

theorem gen_Not (r : Rule) (w : PyVal) (q : Option Inquiry) :
    toR (sat_Not (.rule r) (.py w) (.inq q)) = Rule.eval (.not r) w q :=
  toR_pyNot_liftR (Rule.eval r w q)

/-- the comprehension of `And` over the rule objects is the model's `evalAll` -/
theorem compM_rules (rs : List Rule) (w : PyVal) (q : Option Inquiry) :
    compM (rs.map V.rule) (fun x => methSatisfied (.ok x) (.ok (.py w)) (.ok (.inq q))) =
      (Rule.evalAll rs w q).map (fun bs => bs.map fun b => V.py (.bool b)) := by
  induction rs with
  | nil => rfl
  | cons r rest ih =>
    simp only [List.map_cons, compM, methSatisfied_ok, Rule.evalAll, ih]
    cases Rule.eval r w q with
    | error e => rfl
    | ok b => cases Rule.evalAll rest w q <;> rfl

/-- `len(answers) > 0 and all(answers)` on the answers of the comprehension -/
theorem len_and_all (bs : List Bool) :
    toR (pyAnd (cmpGt (callLen (.ok (.seq (bs.map fun b => V.py (.bool b))))) (cInt 0)) fun _ =>
      callAll (.ok (.seq (bs.map fun b => V.py (.bool b))))) = .ok (!bs.isEmpty && bs.all id) := by
  cases bs with
  | nil => rfl
  | cons b rest =>
    have hpos : Decidable.decide ((0 : Int) < ((b :: rest).map fun b => V.py (.bool b)).length) = true := by
      simp only [List.length_map, List.length_cons, decide_eq_true_eq]
      omega
    rw [callLen_seq, cInt_eq, cInt_eq, cmpGt_int, hpos, ofBool_eq, pyAnd_ok, callAll_seq, List.all_map]
    rfl

theorem gen_And (rs : List Rule) (w : PyVal) (q : Option Inquiry) :
    toR (sat_And (.seq (rs.map V.rule)) (.py w) (.inq q)) = Rule.eval (.and rs) w q := by
  rw [sat_And]
  simp only [pure_ok, listCompM_seq, compM_rules]
  change _ = (Rule.evalAll rs w q).map _
  cases Rule.evalAll rs w q with
  | error e => rfl
  | ok bs =>
    simp only [Except.map, bindM_ok]
    exact len_and_all bs

theorem gen_Or (rs : List Rule) (w : PyVal) (q : Option Inquiry) :
    toR (sat_Or (.seq (rs.map V.rule)) (.py w) (.inq q)) = Rule.eval (.or rs) w q := by
  refine loopM_toR V.rule _ _ (fun rs => Rule.evalAny rs w q) rfl (fun r rest k ih => ?_) rs
  simp only [pure_ok, methSatisfied_ok, Rule.evalAny]
  cases Rule.eval r w q with
  | error e => rfl
  | ok b =>
    cases b
    · exact ih
    · rfl

/-! ### rules that look at the inquiry (`inquiry` is the `Inquiry` object handed to `satisfied`, or `None`) -/

/-- `inquiry and isinstance(what, T) and e` with an inquiry at hand: `b` is the type test, `r` what `e` computes -/
theorem inq_and (q : Inquiry) (b : Bool) (e : M) (r : Bool) (h : toR e = .ok r) :
    toR (pyAnd (.ok (.inq (some q))) fun _ => pyAnd (ofBool b) fun _ => e) = .ok (b && r) := by
  cases b with
  | false => rfl
  | true => exact h

theorem gen_SubjectEqual (w : PyVal) (q : Option Inquiry) :
    toR (sat_SubjectEqual (.py w) (.inq q)) = Rule.eval .subjectEqual w q := by
  cases q with
  | none => rfl
  | some q => exact inq_and q (isStr w) _ (pyEq w q.subject) rfl

theorem gen_ActionEqual (w : PyVal) (q : Option Inquiry) :
    toR (sat_ActionEqual (.py w) (.inq q)) = Rule.eval .actionEqual w q := by
  cases q with
  | none => rfl
  | some q => exact inq_and q (isStr w) _ (pyEq w q.action) rfl

theorem gen_ResourceIn (w : PyVal) (q : Option Inquiry) :
    toR (sat_ResourceIn (.py w) (.inq q)) = Rule.eval .resourceIn w q := by
  cases q with
  | none => rfl
  | some q =>
    rw [sat_ResourceIn, pure_ok, pure_ok, isinstanceM_list]
    cases w <;> rfl

/-- the body shared by `SubjectMatch` / `ActionMatch` / `ResourceMatch`, for a rule created with an attribute name `a` (`ha`: an
attribute `None` reads as no attribute, see `gen_match`) -/
theorem match_body (a : PyVal) (ha : a ≠ .none) (w : PyVal) (f : InqField) (q : Inquiry) :
    toR (iteM (isNotNoneM (.ok (.py a)))
      (iteM (pyAnd (isinstanceM (.ok (.py (q.field f))) "dict") (fun _ => cmpIn (.ok (.py a)) (.ok (.py (q.field f)))))
        (bindM (subscriptM (.ok (.py (q.field f))) (.ok (.py a))) fun v => cmpEq (.ok (.py w)) (.ok v))
        cFalse)
      (cmpEq (.ok (.py w)) (.ok (.py (q.field f))))) = Rule.evalInqMatch f (some a) w (some q) := by
  simp only [isNotNoneM_py ha, iteM_ok, truth_bool, if_true, isinstanceM_dict, Rule.evalInqMatch]
  generalize q.field f = iv
  cases iv with
  | dict kvs =>
    -- `a in d` raises for an unhashable `a`, and only a string can be among the keys
    dsimp only
    change toR (iteM (liftR (dictHas a kvs)) _ _) = _
    unfold dictHas
    cases hashable a with
    | false => rfl
    | true =>
      cases a with
      | str k =>
        rw [subscriptM_dict]
        dsimp only
        cases lookup k kvs <;> rfl
      | _ => rfl
  | _ => rfl

/-- `SubjectMatch` / `ActionMatch` / `ResourceMatch` at once: `hsat` is the translated body in the shape the three `sat_*Match` share
(they differ in the attribute name `name` only), `hattr` what reading that attribute of an inquiry gives.  The model tells "no
attribute" (`none`) from "the attribute `None`" (`some .none`); Python cannot - the constructor's default is `None` and `satisfied`
tests `self.attribute is not None` (`Model/Rules.lean`, `evalInqMatch`) - so the rule object holds `attr.getD .none`, and `hn`
excludes the one value of the model that no rule object stands for. -/
theorem gen_match (sat : V → V → V → M) (name : String) (f : InqField)
    (hsat : ∀ sa w q, sat sa w q = (iteM (pyNot (pure q)) cFalse
      (bindM (attrM (pure q) name) fun iv =>
        (iteM (isNotNoneM (pure sa))
          (iteM (pyAnd (isinstanceM (pure iv) "dict") (fun _ => (cmpIn (pure sa) (pure iv))))
            (bindM (subscriptM (pure iv) (pure sa)) fun iv' => (cmpEq (pure w) (pure iv')))
            cFalse)
          (cmpEq (pure w) (pure iv))))))
    (hattr : ∀ q : Inquiry, attrM (.ok (.inq (some q))) name = .ok (.py (q.field f)))
    (attr : Option PyVal) (hn : attr ≠ some .none) (w : PyVal) (q : Option Inquiry) :
    toR (sat (.py (attr.getD .none)) (.py w) (.inq q)) = Rule.eval (.inqMatch f attr) w q := by
  rw [hsat]
  cases q with
  | none => rfl
  | some q =>
    change toR (bindM (attrM (.ok (.inq (some q))) name) _) = Rule.evalInqMatch f attr w (some q)
    rw [hattr]
    cases attr with
    | none => rfl
    | some a => exact match_body a (fun e => hn (congrArg some e)) w f q

theorem gen_SubjectMatch (attr : Option PyVal) (hn : attr ≠ some .none) (w : PyVal) (q : Option Inquiry) :
    toR (sat_SubjectMatch (.py (attr.getD .none)) (.py w) (.inq q)) = Rule.eval (.inqMatch .subject attr) w q :=
  gen_match sat_SubjectMatch "subject" .subject (fun _ _ _ => rfl) attrM_subject attr hn w q

theorem gen_ActionMatch (attr : Option PyVal) (hn : attr ≠ some .none) (w : PyVal) (q : Option Inquiry) :
    toR (sat_ActionMatch (.py (attr.getD .none)) (.py w) (.inq q)) = Rule.eval (.inqMatch .action attr) w q :=
  gen_match sat_ActionMatch "action" .action (fun _ _ _ => rfl) attrM_action attr hn w q

theorem gen_ResourceMatch (attr : Option PyVal) (hn : attr ≠ some .none) (w : PyVal) (q : Option Inquiry) :
    toR (sat_ResourceMatch (.py (attr.getD .none)) (.py w) (.inq q)) = Rule.eval (.inqMatch .resource attr) w q :=
  gen_match sat_ResourceMatch "resource" .resource (fun _ _ _ => rfl) attrM_resource attr hn w q

/-! ### `PairsEqual` -/

theorem pyEq_str (a b : List Char) : pyEq (.str a) (.str b) = (a == b) := Vakt.pyEq_str a b

/-- `if len(pair) != 2: return False` for a length that is not 2 -/
theorem pair_len (n : Nat) (h : n ≠ 2) (t : M) : iteM (cmpNe (cInt n) (cInt 2)) cFalse t = cFalse := by
  have hn : ((n : Int) == 2) = false := beq_false_of_ne (by omega)
  rw [cInt_eq, cInt_eq, cmpNe_int, hn]
  rfl

/-- the tests of the loop of `PairsEqual` on a pair of length 2 with items `a`, `b` (the length test is part of the statement so
that applying it to a concrete pair compares the three tests one by one, and no `isinstance` has to be evaluated) -/
theorem pair_tests (a b : PyVal) (k : M) :
    iteM (cmpNe (cInt 2) (cInt 2)) cFalse
      (iteM (pyAnd (pyNot (isinstanceM (.ok (.py a)) "str")) fun _ => pyNot (isinstanceM (.ok (.py b)) "str")) cFalse
        (iteM (cmpNe (.ok (.py a)) (.ok (.py b))) cFalse k)) =
      match (if !isStr a && !isStr b then some (.ok false) else if pyEq a b then Option.none else some (.ok false) : Option R) with
      | some r => liftR r
      | Option.none => k := by
  rw [isinstanceM_str, isinstanceM_str, cInt_eq, cmpNe_int, cmpNe_py]
  cases isStr a <;> cases isStr b <;> cases pyEq a b <;> rfl

/-- one iteration of the loop of `PairsEqual` against the model's `pairStep` -/
theorem pair_iter (p : PyVal) (k : M) :
    (iteM (cmpNe (callLen (pure (V.py p))) (cInt (2)))
      cFalse
      (iteM (pyAnd (pyNot (isinstanceM (subscriptM (pure (V.py p)) (cInt (0))) "str")) (fun _ => (pyNot (isinstanceM (subscriptM (pure (V.py p)) (cInt (1))) "str"))))
      cFalse
      (iteM (cmpNe (subscriptM (pure (V.py p)) (cInt (0))) (subscriptM (pure (V.py p)) (cInt (1))))
      cFalse
      k))) = (match Rule.pairStep p with | some r => liftR r | Option.none => k) := by
  cases p with
  | list xs | tuple xs =>
    match xs with
    | [a, b] => exact pair_tests a b k
    | [] | [_] => rfl
    | _ :: _ :: _ :: rest => exact pair_len (rest.length + 3) (by omega) _
  | str cs =>
    match cs with
    | [a, b] =>
      refine (pair_tests (.str [a]) (.str [b]) k).trans ?_
      rw [pyEq_char]
      rfl
    | [] | [_] => rfl
    | _ :: _ :: _ :: rest => exact pair_len (rest.length + 3) (by omega) _
  | dict kvs =>
    -- `pair[0]` on a dictionary with string keys is a `KeyError`
    match kvs with
    | [] | [_] | [_, _] => rfl
    | _ :: _ :: _ :: rest => exact pair_len (rest.length + 3) (by omega) _
  | _ => rfl

theorem gen_PairsEqual (w : PyVal) (q : V) : toR (sat_PairsEqual (.py w) q) = Rule.eval .pairsEqual w Option.none := by
  rw [sat_PairsEqual, pure_ok, isinstanceM_list]
  cases w with
  | list ps =>
    refine loopM_toR V.py _ _ Rule.evalPairs rfl (fun p rest k ih => ?_) ps
    rw [pair_iter, Rule.evalPairs]
    cases Rule.pairStep p with
    | none => exact ih
    | some r => exact toR_liftR r
  | _ => rfl

/-! ### the two rules that lean on libraries -/

/-- **`RegexMatch.satisfied`**: `bool(self.regex.match(str(what)))` is the model's `evalRegex` (the compiled pattern stands for its
pattern text; what `re` does with it is `Model/Regex.lean`, compared differentially) -/
theorem gen_RegexMatch (pat : List Char) (w : PyVal) (q : V) :
    toR (sat_RegexMatch (.py (.str pat)) (.py w) q) = Rule.eval (.regexMatch pat) w Option.none := by
  change toR (callBool (reMatchM (.ok (.py (.str pat))) (strPyM (.ok (.py w))))) = Rule.evalRegex pat w
  simp only [strPyM, bindM_ok, Rule.evalRegex]
  cases pyStr w with
  | none => rfl
  | some s =>
    simp only [reMatchM, bindM_ok]
    cases parsePattern (Rule.stripAnchors pat).1 <;> rfl

/-- **`CIDR.satisfied`**: not a string: false; an address or a network `ipaddress` refuses: false; otherwise containment -/
theorem gen_CIDR (c w : PyVal) (q : V) :
    toR (sat_CIDR (.py c) (.py w) q) = Rule.eval (.cidr c) w Option.none := by
  change toR (iteM (pyNot (isinstanceM (.ok (.py w)) "str")) cFalse (ipInNetM (.ok (.py w)) (.ok (.py c)) cFalse)) =
    Rule.evalCidr c w
  rw [isinstanceM_str]
  cases w with
  | str a =>
    simp only [ipInNetM, bindM_ok, Rule.evalCidr]
    cases c with
    | str n =>
      -- reduce the `match` on the constructors first: its arms bind their own `a`, `n`
      dsimp only
      cases Cidr.parseAddr a with
      | none => rfl
      | some vi => cases Cidr.parseNet n <;> rfl
    | _ =>
      dsimp only
      cases Cidr.parseAddr a <;> rfl
  | _ => rfl

/-- what was translated in this run is what the theorems above cover.  The point of this and the other `_covers` theorems: a method
added to or dropped from the translator's table makes the `rfl` fail, so the set of obligations cannot drift silently from what was
translated.  (The three in the checker files state membership only: a dropped class breaks them, an added one does not.) -/
theorem translated_covers :
    translated.map Prod.fst = ["operator.Eq", "operator.NotEq", "operator.Greater", "operator.Less", "operator.GreaterOrEqual",
      "operator.LessOrEqual", "list.In", "list.NotIn", "list.AllIn", "list.AllNotIn", "list.AnyIn", "list.AnyNotIn",
      "logic.Truthy", "logic.Falsy", "logic.And", "logic.Or", "logic.Not", "logic.Any", "logic.Neither", "string.Equal",
      "string.PairsEqual", "string.RegexMatch", "string.StartsWith", "string.EndsWith", "string.Contains", "inquiry.SubjectEqual",
      "inquiry.ActionEqual", "inquiry.ResourceIn", "inquiry.SubjectMatch", "inquiry.ActionMatch", "inquiry.ResourceMatch",
      "net.CIDR"] := by
  rfl

end Vakt.GenEquiv
