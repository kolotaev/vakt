import Gen.Mongo
import Gen.Lemmas
import Proofs.Backends
/-!
# The translated methods of `MongoStorage` are the concrete model `mongoStep`

`/repo/vakt/storage/mongo.py`, the collection calls (`insert_one` with its `DuplicateKeyError` handler, `find_one`,
`update_one(..., upsert=False)`, `delete_one`, `find`) being effects on the collection; a document stands for the policy it encodes (what the
document *is* belongs to C09).  A policy the conversion refuses makes `add` / `update` raise before the collection is touched (`rejected`).
-/
namespace Vakt.GenEquiv
open Vakt PyVal Vakt.PyPrim Vakt.GenMongo Vakt.Store Vakt.Backends

/-- the world of a `MongoStorage`: the collection, nothing raised -/
def MgW (c : Coll) : V := .mworld c Option.none

/-- how a method ends, against `mongoStep` (its recorded client calls aside); the shape is explained at `EOutcome` (`EquivEnfold.lean`).
`.rejected` is apart: `__prepare_doc` raises while the argument of the client call is evaluated and no handler of `add` / `update`
catches it, so the method ends in that raise and not in a world. -/
def MgOutcome (m : M) (r : Coll × Out × List Call) : Prop :=
  match r.2.1 with
  | .done => m = .ok (.seq [.py .none, MgW r.1])
  | .pol Option.none => m = .ok (.seq [.py .none, MgW r.1])
  | .pol (some p) => ∃ u, m = .ok (.seq [.polv u p true, MgW r.1])
  | .rejected => m = .error .raised
  | .pols l => m = .ok (.seq [.seq (l.map fun (x : Uid × Pol) => V.polv x.1 x.2 true), MgW r.1])
  | e => m = .ok (.mworld r.1 (some e))

theorem prepareDocM_polv (u : Uid) (p : Pol) (ok : Bool) :
    prepareDocM (.ok (.polv u p ok)) = if ok then .ok (.mdoc u p) else raiseM := rfl

theorem insertOneM_MgW (u : Uid) (p : Pol) (c : Coll) (k dup : V → M) :
    insertOneM (.ok (.mdoc u p)) (.ok (MgW c)) k dup =
      if (dictGet u c).isSome then dup (MgW c) else k (MgW (c ++ [(u, p)])) := rfl

theorem updateOneM_MgW (u u' : Uid) (p : Pol) (c : Coll) (k : V → M) :
    updateOneM (.ok (.py (.str u))) (.ok (.mdoc u' p)) (.ok (MgW c)) k =
      if (dictGet u c).isSome then k (MgW (dictSet u p c)) else k (MgW c) := rfl

theorem findOneM_MgW (u : Uid) (c : Coll) (k : V → V → M) :
    findOneM (.ok (.py (.str u))) (.ok (MgW c)) k =
      (match dictGet u c with | some p => k (.mdoc u p) (MgW c) | Option.none => k (.py .none) (MgW c)) := rfl

theorem findPageM_MgW (c : Coll) {l s : Int} (hl : 0 ≤ l) (hs : 0 ≤ s) (k : V → V → M) :
    findPageM (.ok (.py (.int l))) (.ok (.py (.int s))) (.ok (MgW c)) k = k (.mcursor (mongoFind c l.toNat s.toNat)) (MgW c) :=
  if_pos (bounds_ok hl hs)

theorem gen_mongo_add (c : Coll) (self : V) (u : Uid) (p : Pol) (ok : Bool) :
    MgOutcome (add_MongoStorage self (.polv u p ok) (MgW c)) (mongoStep c (.add u p ok)) := by
  cases ok
  · rfl
  · unfold add_MongoStorage
    simp only [mongoStep, pure_ok, prepareDocM_polv, if_true, insertOneM_MgW]
    cases dictGet u c <;> rfl

theorem gen_mongo_update (c : Coll) (self : V) (u : Uid) (p : Pol) (ok : Bool) :
    MgOutcome (update_MongoStorage self (.polv u p ok) (MgW c)) (mongoStep c (.update u p ok)) := by
  cases ok
  · rfl
  · unfold update_MongoStorage
    simp only [mongoStep, pure_ok, attrM_uid, prepareDocM_polv, if_true, bindM_ok, updateOneM_MgW]
    cases dictGet u c <;> rfl

theorem gen_mongo_delete (c : Coll) (self : V) (u : Uid) :
    MgOutcome (delete_MongoStorage self (.py (.str u)) (MgW c)) (mongoStep c (.delete u)) := rfl

theorem gen_mongo_get (c : Coll) (self : V) (u : Uid) :
    MgOutcome (get_MongoStorage self (.py (.str u)) (MgW c)) (mongoStep c (.get u)) := by
  unfold get_MongoStorage
  simp only [mongoStep, pure_ok, findOneM_MgW]
  cases dictGet u c with
  | none => rfl
  | some q => exact ⟨_, rfl⟩

theorem gen_mongo_feed (docs : St) :
    feed_policies_MongoStorage (.mcursor docs) = .ok (.seq (docs.map fun (x : Uid × Pol) => V.polv x.1 x.2 true)) :=
  loopS_yield (fun x => fromDocM (pure x)) _ (fun (x : Uid × Pol) => .polv x.1 x.2 true) docs (fun _ _ => rfl) [] _

theorem gen_mongo_check (c : Coll) (l o : Int) :
    check_limit_and_offset_StorageM (.py (.int l)) (.py (.int o)) (MgW c) =
      if checkLimitOffset l o then .ok (.mworld c (some .valueError)) else .ok (.seq [.py .none, MgW c]) :=
  check_limit_body l o _ _

theorem gen_mongo_get_all (c : Coll) (self : V) (l o : Int) :
    MgOutcome (get_all_MongoStorage self (.py (.int l)) (.py (.int o)) (MgW c)) (mongoStep c (.getAll l o)) := by
  unfold get_all_MongoStorage
  simp only [mongoStep, mongoGetAll, pure_ok, bindM_ok, gen_mongo_check]
  cases hc : checkLimitOffset l o
  · obtain ⟨hl, ho⟩ := checkLimitOffset_false hc
    simp only [Bool.false_eq_true, if_false, callProcM_pair, cInt_eq, cmpEq_int, ofBool_eq, iteM_ok, truth_bool]
    cases l == 0
    · -- the check passed: limit and skip are non-negative, and what `find` answers is the model's page
      simp only [Bool.false_eq_true, if_false, findPageM_MgW c hl ho, gen_mongo_feed]
      rfl
    · rfl
  · rfl

theorem translatedMongo_covers : translatedMongo =
    ["_check_limit_and_offset", "__feed_policies", "add", "get", "update", "delete", "get_all"] := rfl

end Vakt.GenEquiv
