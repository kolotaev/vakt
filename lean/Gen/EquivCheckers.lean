import Gen.Checkers
import Gen.Lemmas
/-!
# The translated `fits` methods of the string checkers are the model's checkers

`/repo/vakt/checker.py`.  `StringExactChecker.fits` / `StringFuzzyChecker.fits`, observed through truthiness, are `exactFits` / `fuzzyFits`
of the model for every policy, field, offered value and inquiry, so the theorems of `Props/C06.lean` speak about the source.
-/
namespace Vakt.GenEquiv
open Vakt PyVal Vakt.PyPrim Vakt.GenCheckers

theorem sub_zero (h : Char) (t : List Char) :
    subscriptM (.ok (.py (.str (h :: t)))) (cInt (0)) = .ok (.py (.str [h])) := rfl
theorem cmpEq_str (a b : List Char) :
    cmpEq (.ok (.py (.str a))) (.ok (.py (.str b))) = .ok (.py (.bool (a == b))) := cmpEq_py _ _

/-- `s[-1]` of a non-empty string: index `len(s) - 1` -/
theorem strIndexM_last (h : Char) (t : List Char) :
    strIndexM (.ok (.py (.str (h :: t)))) (-1) = .ok (.py (.str [(h :: t).getLast (List.cons_ne_nil h t)])) := by
  have hj : ((h :: t).length : Int) + -1 = (t.length : Int) := by rw [List.length_cons]; omega
  have hget : (h :: t)[t.length]? = some ((h :: t).getLast (List.cons_ne_nil h t)) := by
    rw [← List.getLast?_eq_some_getLast, List.getLast?_eq_getElem?]; rfl
  have hneg : (-1 : Int) < 0 := by decide
  simp only [strIndexM, bindM_ok, hj, hneg, ↓reduceIte, Int.not_lt.2 (Int.natCast_nonneg t.length), Int.toNat_natCast, hget]

/-- is the element wholly enclosed in the policy's tags -/
def tagCond (p : Policy) (cs : List Char) : Bool :=
  match cs with
  | [] => false
  | h :: _ => h == p.stag && cs.getLast? == some p.etag

/-- the test `item and policy.start_tag == item[0] and policy.end_tag == item[-1]` evaluates without error, to a value
whose truth is `tagCond` -/
theorem cond_eval (p : Policy) (cs : List Char) :
    ∃ v, (pyAnd (pure (V.py (.str cs))) (fun _ => (pyAnd (cmpEq (attrPolicyM (pure (V.policy p)) "start_tag") (subscriptM (pure (V.py (.str cs))) (cInt (0)))) (fun _ => (cmpEq (attrPolicyM (pure (V.policy p)) "end_tag") (strIndexM (pure (V.py (.str cs))) (-1))))))) = .ok v ∧
      truth v = tagCond p cs := by
  cases cs with
  | nil => exact ⟨_, rfl, rfl⟩
  | cons h t =>
    refine ⟨.py (.bool (h == p.stag && (h :: t).getLast (List.cons_ne_nil h t) == p.etag)), ?_, rfl⟩
    -- the source compares tag with character, `tagCond` character with tag
    simp only [pure_ok, pyAnd_ok, attr_stag, attr_etag, sub_zero, cmpEq_char, strIndexM_last, ofBool_eq, truth_bool,
      BEq.comm (a := p.stag), BEq.comm (a := p.etag)]
    cases h == p.stag <;> rfl

theorem inner_tagCond (p : Policy) (cs : List Char) :
    inner p.stag p.etag cs = if tagCond p cs then (cs.drop 1).dropLast else cs := by
  cases cs <;> rfl

/-- whatever branch is taken, the text that is then compared is the model's `inner` -/
theorem tag_branch (p : Policy) (cs : List Char) (f : V → M) :
    (iteM (pyAnd (pure (V.py (.str cs))) (fun _ => (pyAnd (cmpEq (attrPolicyM (pure (V.policy p)) "start_tag") (subscriptM (pure (V.py (.str cs))) (cInt (0)))) (fun _ => (cmpEq (attrPolicyM (pure (V.policy p)) "end_tag") (strIndexM (pure (V.py (.str cs))) (-1)))))))
      (bindM (strSlice1m1M (pure (V.py (.str cs)))) fun v => f v)
      (f (V.py (.str cs)))) = f (V.py (.str (inner p.stag p.etag cs))) := by
  obtain ⟨v, hv, ht⟩ := cond_eval p cs
  rw [hv, iteM_ok, ht, inner_tagCond]
  cases tagCond p cs <;> rfl

theorem getattr_field (p : Policy) (f : Field) :
    getattrDynM (.ok (.policy p)) (.ok (.py (.str (fieldName f).toList))) cEmptyList = .ok (.seq ((p.field f).map elemV)) :=
  getattrDynM_field p f

/-- the body of the loop of `StringChecker.fits`, with the comparison of the concrete checker -/
def strBody (cmp : M → M → M) (p : Policy) (w : PyVal) : V → M → M := fun l1_item k1 =>
      (iteM (typeIsNotStrM (pure l1_item))
      k1
      (iteM (pyAnd (pure l1_item) (fun _ => (pyAnd (cmpEq (attrPolicyM (pure (V.policy p)) "start_tag") (subscriptM (pure l1_item) (cInt (0)))) (fun _ => (cmpEq (attrPolicyM (pure (V.policy p)) "end_tag") (strIndexM (pure l1_item) (-1)))))))
      (bindM (strSlice1m1M (pure l1_item)) fun v_item =>
      (iteM (bindM (pure (V.py w)) fun h2_needle => (bindM (pure v_item) fun h3_haystack => (cmp (pure h2_needle) (pure h3_haystack))))
      cTrue
      k1))
      (iteM (bindM (pure (V.py w)) fun h4_needle => (bindM (pure l1_item) fun h5_haystack => (cmp (pure h4_needle) (pure h5_haystack))))
      cTrue
      k1)))

/-- one iteration on a string element: compare with the model's `inner` text, else go on -/
theorem strBody_str (cmp : M → M → M) (p : Policy) (w : PyVal) (cs : List Char) (k : M) :
    strBody cmp p w (V.py (.str cs)) k = iteM (cmp (.ok (V.py w)) (.ok (V.py (.str (inner p.stag p.etag cs))))) cTrue k :=
  -- the opening test `type(item) != str` is false on a string (`typeIsNotStrM_str`) and computes away in the unification
  tag_branch p cs fun v => iteM (cmp (.ok (V.py w)) (.ok v)) cTrue k

theorem loop_exact (p : Policy) (w : PyVal) (es : List Elem) :
    toR (loopM (es.map elemV) (strBody cmpEq p w) cFalse) = exactLoop p.stag p.etag w es := by
  refine loopM_toR elemV _ _ _ rfl (fun e rest k ih => ?_) es
  cases e with
  | str cs =>
    rw [elemV, strBody_str, cmpEq_py, iteM_ok, truth_bool, exactLoop]
    cases pyEq w (.str (inner p.stag p.etag cs))
    · exact ih
    · rfl
  -- `type(item) != str` on a rule or an attribute dictionary: the body is `continue`
  | rule r => exact ih
  | attrs kvs => exact ih

/-- **`StringExactChecker.fits` as written in the source is the model's `exactFits`** -/
theorem gen_StringExactChecker_fits (p : Policy) (f : Field) (w : PyVal) (q : V) :
    toR (fits_StringExactChecker (.policy p) (.py (.str (fieldName f).toList)) (.py w) q) = exactFits p f w := by
  unfold fits_StringExactChecker
  simp only [pure_ok, getattrDynM_field, bindM_ok, pyFor_seq]
  exact loop_exact p w (p.field f)

theorem loop_fuzzy (p : Policy) (w : PyVal) (es : List Elem) :
    toR (loopM (es.map elemV) (strBody cmpIn p w) cFalse) = fuzzyLoop p.stag p.etag w es := by
  refine loopM_toR elemV _ _ _ rfl (fun e rest k ih => ?_) es
  cases e with
  | str cs =>
    rw [elemV, strBody_str]
    cases w with
    | str ws =>
      rw [cmpIn_str, ofBool_eq, iteM_ok, truth_bool, fuzzyLoop]
      cases isInfix ws (inner p.stag p.etag cs)
      · exact ih
      · rfl
    | _ => rfl
  -- `type(item) != str` on a rule or an attribute dictionary: the body is `continue`
  | rule r => exact ih
  | attrs kvs => exact ih

/-- **`StringFuzzyChecker.fits` as written in the source is the model's `fuzzyFits`** -/
theorem gen_StringFuzzyChecker_fits (p : Policy) (f : Field) (w : PyVal) (q : V) :
    toR (fits_StringFuzzyChecker (.policy p) (.py (.str (fieldName f).toList)) (.py w) q) = fuzzyFits p f w := by
  unfold fits_StringFuzzyChecker
  simp only [pure_ok, getattrDynM_field, bindM_ok, pyFor_seq]
  exact loop_fuzzy p w (p.field f)

theorem translatedCheckers_covers :
    "StringExactChecker" ∈ translatedCheckers ∧ "StringFuzzyChecker" ∈ translatedCheckers := by decide

end Vakt.GenEquiv
