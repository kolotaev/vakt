import Gen.PolicyJson
import Gen.Lemmas
import Proofs.Serialize
/-!
# The translated `Policy.from_json` against `fromDocD`, the model's `fromDoc` with the empty context as the code writes it

`/repo/vakt/policy.py`: the decoded properties are a local dictionary that the method tests, reads, deletes from and writes to;
`cls(**props)` is the constructor as far as decoding is concerned.
-/
namespace Vakt.GenEquiv
open Vakt PyVal Vakt.PyPrim Vakt.GenPolicyJson

open Vakt.Serialize in
/-- `Serialize.fromDoc`, except that a document with neither `context` nor `rules` gets the context the code gives it (`{}`, here
`.dict []`) where the model writes the empty key list (`.list []`); on every other document the two are equal (`fromDocD_eq`) -/
def fromDocD (d : Serialize.Doc) : Except Serialize.DocErr Serialize.Decoded :=
  if !has "uid" d then .error .creation
  else
    let (ctxRules, d1) :=
      if has "context" d then (get "context" d, d)
      else if has "rules" d then (get "rules" d, erase "rules" d)
      else (.dict [], d)
    let d2 := put "context" ctxRules d1
    let d3 := erase "type" d2
    construct d3

section
open Vakt.Serialize

theorem parseM_dict (d : Doc) : parseM (.ok (.py (.dict d))) = .ok (.py (.dict d)) := rfl

theorem cmpIn_doc (k : String) (d : Doc) : cmpIn (cStr k) (.ok (V.py (.dict d))) = ofBool (has k d) := cmpIn_dict k.toList d

theorem subscriptM_doc (k : String) (d : Doc) (h : has k d = true) :
    subscriptM (.ok (V.py (.dict d))) (cStr k) = .ok (.py (get k d)) := by
  obtain ⟨v, hv⟩ := Option.isSome_iff_exists.1 h
  rw [cStr_eq, subscriptM_dict, Serialize.get, hv]
  rfl

theorem set_dict (k : String) (d : Doc) (v : PyVal) :
    setItemM (.ok (V.py (.dict d))) (cStr k) (.ok (V.py v)) = .ok (.py (.dict (put k v d))) := rfl

theorem delItemM_doc (k : String) (d : Doc) :
    delItemM (.ok (V.py (.dict d))) (cStr k) = if has k d then .ok (.py (.dict (erase k d))) else raiseM := rfl

/-- `if k in props: del props[k]`, whatever is then done with `props` -/
theorem del_if_present (k : String) (d : Doc) (f : V → M) :
    iteM (cmpIn (cStr k) (.ok (V.py (.dict d)))) (bindM (delItemM (.ok (V.py (.dict d))) (cStr k)) f) (f (.py (.dict d))) =
      f (.py (.dict (erase k d))) := by
  rw [cmpIn_doc, delItemM_doc, ofBool_eq, iteM_ok, truth_bool]
  cases h : has k d with
  | true => rfl
  | false => rw [erase_absent k d h]; rfl

/-- **`Policy.from_json` as written in the source is `fromDocD`**: a document without `uid` is refused, `context`
wins over the deprecated `rules` (which is removed), a stored `type` is dropped before the constructor sees it -/
theorem gen_from_json (cls : V) (d : Doc) :
    from_json_Policy cls (.py (.dict d)) =
      (match fromDocD d with | .ok dec => .ok (.decoded dec) | .error _ => raiseM) := by
  unfold from_json_Policy fromDocD
  simp only [pure_ok, parseM_dict, bindM_ok, cmpNotIn, cmpIn_doc, ofBool_eq, pyNot_ok, truth_bool, iteM_ok, cEmptyDict]
  cases hu : has "uid" d with
  | false => rfl
  | true =>
    simp only [Bool.not_true, Bool.false_eq_true, if_false]
    cases hc : has "context" d with
    | true => simp only [if_true, subscriptM_doc "context" d hc, bindM_ok, set_dict, del_if_present]; rfl
    | false =>
      simp only [Bool.false_eq_true, if_false]
      cases hr : has "rules" d with
      | true => simp only [if_true, subscriptM_doc "rules" d hr, bindM_ok, delItemM_doc "rules" d, hr, set_dict, del_if_present]; rfl
      | false => simp only [Bool.false_eq_true, if_false, bindM_ok, set_dict, del_if_present]; rfl

/-- equal when `context` or `rules` is present.  When neither is, they are not: the decoded contexts are `.dict []` and `.list []`
(both accepted by `isDictLike`, so both decode or both refuse), and no theorem relates the two results there -/
theorem fromDocD_eq (d : Doc) (h : has "context" d = true ∨ has "rules" d = true) : fromDocD d = fromDoc d := by
  unfold fromDocD fromDoc
  cases h with
  | inl hc => simp only [hc, if_true]
  | inr hr => simp only [hr, if_true]

end

theorem translatedPolicyJson_covers : translatedPolicyJson = ["from_json"] := rfl

end Vakt.GenEquiv
