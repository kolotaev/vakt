import Gen.Inquiry
import Gen.Lemmas
import Model.InquiryEq
/-!
# The translated `Inquiry.__init__` is the model's `Inquiry.mk'`

`/repo/vakt/guard.py`.  Called on a fresh object with any four values, the translated initialiser leaves exactly the four attributes of
`Inquiry.mk'` - a falsy argument replaced by `''` (by `{}` for the context) - which is the normalisation clause of C13.
-/
namespace Vakt.GenEquiv
open Vakt PyVal Vakt.PyPrim Vakt.GenInquiry

/-- **`Inquiry.__init__` as written in the source** -/
theorem gen_inquiry_init (r a s c : PyVal) :
    init_Inquiry (.obj []) (.py r) (.py a) (.py s) (.py c) =
      .ok (.seq [.py .none, .obj [("resource", .py (Inquiry.mk' r a s c).resource), ("action", .py (Inquiry.mk' r a s c).action),
                                   ("subject", .py (Inquiry.mk' r a s c).subject), ("context", .py (Inquiry.mk' r a s c).context)]]) := by
  simp only [init_Inquiry, pure_ok, cStr_eq, cEmptyDict, pyOr_py, objSetK_obj, cNone_eq, pairM_ok, String.ofList_toList]
  rfl     -- four distinct names written one after the other into the empty object

theorem translatedInquiry_covers : translatedInquiry = ["__init__"] := rfl

end Vakt.GenEquiv
