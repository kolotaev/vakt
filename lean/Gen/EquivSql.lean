import Gen.Sql
import Gen.Lemmas
import Proofs.Backends
/-!
# The translated methods of `SQLStorage`: the mutations are `SqlSession.step`, `get` and `get_all` read the session's view

`/repo/vakt/storage/sql/__init__.py`, the session calls (`add`, `commit`, `rollback`, `get`, the bulk delete, the row object's `update`) being effects
on the session: its committed state, its view, whether something is pending.  `SqlSession.step` says *which failures are followed by a rollback* (a key
that is taken; any exception in `update`) and that a mutation that returns has committed (C15); `get` is `lookup` in the view, `get_all` is `sqlGetAll`.
-/
namespace Vakt.GenEquiv
open Vakt PyVal Vakt.PyPrim Vakt.GenSql Vakt.Store Vakt.SqlSession

/-- the world of a `SQLStorage`: the session, no conflict pending, nothing raised -/
def SW (s : Sess) : V := .sworld s false Option.none

/-- how a mutation ends, against `SqlSession.step`; the shape is explained at `EOutcome` (`EquivEnfold.lean`).  Two ways for `.rejected`:
in `add` the conversion's exception passes the handlers (they catch the key conflict only) and the method ends in that raise; `update`
rolls back and re-raises, which is recorded in the world.  A mutation answers nothing else: the last arm. -/
def SOutcome (m : M) (r : Sess × Out) : Prop :=
  match r.2 with
  | .done => m = .ok (.seq [.py .none, SW r.1])
  | .rejected => m = .error .raised ∨ m = .ok (.sworld r.1 false (some .rejected))
  | .existsErr => m = .ok (.sworld r.1 false (some .existsErr))
  | _ => False

theorem sessGetM_sworld (u : Uid) (s : Sess) (c : Bool) (k : V → V → M) :
    sessGetM (.ok (.py (.str u))) (.ok (.sworld s c Option.none)) k =
      (match lookup u s.view with
       | some p => k (.smodel u p true) (.sworld s c Option.none)
       | Option.none => k (.py .none) (.sworld s c Option.none)) := rfl

theorem sessAddM_sworld (u : Uid) (p : Pol) (b c : Bool) (s : Sess) (k : V → M) :
    sessAddM (.ok (.smodel u p b)) (.ok (.sworld s c Option.none)) k =
      k (.sworld (stage (fun v => v ++ [(u, p)]) s) (lookup u s.view).isSome Option.none) := rfl

theorem sessSliceQueryM_sworld (s : Sess) (c : Bool) {a b : Int} (ha : 0 ≤ a) (hb : 0 ≤ b) (k : V → V → M) :
    sessSliceQueryM (.ok (.py (.int a))) (.ok (.py (.int b))) (.ok (.sworld s c Option.none)) k =
      k (.scursor (((sortUid s.view).drop a.toNat).take (b.toNat - a.toNat))) (.sworld s c Option.none) :=
  if_pos (bounds_ok ha hb)

theorem gen_sql_add (s : Sess) (self : V) (u : Uid) (p : Pol) (ok : Bool) :
    SOutcome (add_SQLStorage self (.polv u p ok) (SW s)) (SqlSession.step s (.add u p ok)) := by
  cases ok
  · exact .inl rfl
  · unfold add_SQLStorage SW SqlSession.step
    simp only [pure_ok, fromPolicyM, bindM_ok, if_true, sessAddM_sworld]
    cases lookup u s.view <;> rfl

theorem rollback_stage (f : St → St) (s : Sess) : rollback (stage f s) = rollback s := rfl

theorem gen_sql_update (s : Sess) (self : V) (u : Uid) (p : Pol) (ok : Bool) :
    SOutcome (update_SQLStorage self (.polv u p ok) (SW s)) (SqlSession.step s (.update u p ok)) := by
  unfold update_SQLStorage SW SqlSession.step
  simp only [pure_ok, attrM_uid, sessGetM_sworld]
  cases lookup u s.view with
  | none => rfl
  | some q =>
    cases ok
    · -- the handler rolls back the session as it stood at the `try`, the model the one with the half-made update staged:
      -- a rollback does not care what was pending
      show _ ∨ _ = Except.ok (V.sworld (rollback (stage (partialUpdate u p) s)) false (some Out.rejected))
      rw [rollback_stage]
      exact .inr rfl
    · rfl

/-- the deletes of the element rows have no effect of their own in the session model (`sessElemDeleteM`): this goes through only because
the method goes on to stage the delete of the policy row in the same transaction -/
theorem gen_sql_delete (s : Sess) (self : V) (u : Uid) :
    SOutcome (delete_SQLStorage self (.py (.str u)) (SW s)) (SqlSession.step s (.delete u)) := rfl

/-- `get` reads the session's view and leaves the session alone -/
theorem gen_sql_get (s : Sess) (self : V) (u : Uid) :
    get_SQLStorage self (.py (.str u)) (SW s) =
      (match lookup u s.view with
       | some p => .ok (.seq [.polv u p true, SW s])
       | Option.none => .ok (.seq [.py .none, SW s])) := by
  unfold get_SQLStorage SW
  simp only [pure_ok, sessGetM_sworld]
  cases lookup u s.view <;> rfl

theorem gen_sql_check (s : Sess) (l o : Int) :
    check_limit_and_offset_StorageS (.py (.int l)) (.py (.int o)) (SW s) =
      if Backends.checkLimitOffset l o then .ok (.sworld s false (some .valueError)) else .ok (.seq [.py .none, SW s]) :=
  check_limit_body l o _ _

/-- **`SQLStorage.get_all` as written in the source is the model's `sqlGetAll`**: the limit / offset check, then
`ORDER BY uid LIMIT (stop - start) OFFSET start` over the session's view, every row converted back -/
theorem gen_sql_get_all (s : Sess) (self : V) (l o : Int) :
    get_all_SQLStorage self (.py (.int l)) (.py (.int o)) (SW s) =
      (match Backends.sqlGetAll s l o with
       | Option.none => .ok (.sworld s false (some .valueError))
       | some pg => .ok (.seq [.seq (pg.map fun (x : Uid × Pol) => V.polv x.1 x.2 true), SW s])) := by
  unfold get_all_SQLStorage Backends.sqlGetAll
  simp only [pure_ok, bindM_ok, cEmptyList, gen_sql_check]
  cases hc : Backends.checkLimitOffset l o
  · obtain ⟨hl, ho⟩ := Backends.checkLimitOffset_false hc
    -- the check passed: both bounds of the slice are non-negative, the query is the model's page, the loop converts its rows
    simp only [Bool.false_eq_true, if_false, callProcM_pair, SW, addM_ok, sessSliceQueryM_sworld s _ ho (Int.add_nonneg ho hl)]
    exact loopS_yield (fun x => toPolicyM (pure x)) _ (fun (x : Uid × Pol) => .polv x.1 x.2 true) _ (fun _ _ => rfl) [] _
  · rfl

theorem translatedSql_covers : translatedSql = ["_check_limit_and_offset", "get_all", "add", "get", "update", "delete"] := rfl

end Vakt.GenEquiv
